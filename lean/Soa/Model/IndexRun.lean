import Soa.Extracted.Index
/-!
# Running the extracted index layer, and std's `SliceIndex` semantics to compare with
-/
namespace Soa.IdxIR

/-- a generated accessor `m` of container kind `k` applied to the index value `iv`, on a
    lockstep container of length `n` and shape `sh`, under build profile `p` -/
def runLT (p : Prof) (t : LT) (k : Kind) (iv : IV) (m : M) : R :=
  match Soa.Extracted.table k iv.form m with
  | some b => eval Soa.Extracted.table p t 8 k iv b
  | none => .err .stuck

/-- on a lockstep container of length `n` and shape `sh` -/
def run (p : Prof) (n : Nat) (sh : Shape) (k : Kind) (iv : IV) (m : M) : R := runLT p (LT.uniform n sh) k iv m

/-- std: the window `slice.get(index)` selects on a slice of length `n` (`none` = `None`);
    `slice[index]` panics exactly when this is `none`.
    (`core::slice::index`: `RangeInclusive` with `end == usize::MAX` is rejected, an exhausted
    one is the empty range at `end + 1`.) -/
def stdGet (n : Nat) (iv : IV) : Option (Nat × Nat) :=
  match iv.form with
  | .pos => if iv.pos < n then some (iv.pos, 1) else none
  | .range => if iv.start ≤ iv.end_ ∧ iv.end_ ≤ n then some (iv.start, iv.end_ - iv.start) else none
  | .rangeTo => if iv.end_ ≤ n then some (0, iv.end_) else none
  | .rangeFrom => if iv.start ≤ n then some (iv.start, n - iv.start) else none
  | .rangeFull => some (0, n)
  | .rangeIncl =>
    if iv.end_ = MAX then none
    else
      let s := if iv.exhausted then iv.end_ + 1 else iv.start
      if s ≤ iv.end_ + 1 ∧ iv.end_ + 1 ≤ n then some (s, iv.end_ + 1 - s) else none
  | .rangeToIncl =>
    if iv.end_ = MAX then none
    else if iv.end_ + 1 ≤ n then some (0, iv.end_ + 1) else none

/-- what a non-panicking accessor must return -/
def expectGet (w : Option (Nat × Nat)) : R :=
  match w with
  | some (s, l) => .ok (.some_ (.win s l))
  | none => .ok .none_

/-- what a panicking accessor must do -/
def expectIndex (w : Option (Nat × Nat)) : R :=
  match w with
  | some (s, l) => .ok (.win s l)
  | none => .err .panic

def Shape.wf : Shape → Prop
  | .leaf => True
  | .nest fs => fs ≠ [] ∧ ∀ f ∈ fs, f.wf

end Soa.IdxIR
