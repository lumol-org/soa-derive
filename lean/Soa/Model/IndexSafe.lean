import Soa.Lemmas.IndexEval
/-!
# Static safety analysis of the extracted index layer

`safeB` decides, on the IR term of an accessor, whether its evaluation can reach a
per-field `get_unchecked*`.  `eval_not_ub` proves the analysis sound for **every** tree of
field lengths (lockstep or not), every index value and both profiles.
-/
namespace Soa.IdxIR

/-- the index form an `I` expression produces, given the form of `self` -/
def formAfter (form : Form) : I → Form
  | .self => form
  | .range _ _ => .range
  | .rangeIncl _ _ => .rangeIncl
  | .opaque _ => form

/-- can evaluating `b` reach an unchecked per-field access?  (`true` = it cannot) -/
def safeB (table : Kind → Form → M → Option B) : Nat → Kind → Form → B → Bool
  | 0, _, _, _ => true
  | fuel + 1, kind, form, b =>
    match b with
    | .ite _ t e => safeB table fuel kind form t && safeB table fuel kind form e
    | .some b => safeB table fuel kind form b
    | .call m i k =>
      match table (kindAfter kind k) (formAfter form i) m with
      | some b' => safeB table fuel (kindAfter kind k) (formAfter form i) b'
      | none => true
    | .build la _ => la.mode != .unchecked
    | _ => true

theorem evalI_form (p : Prof) (t : LT) (iv iv' : IV) (i : I) (h : evalI p t iv i = some iv') :
    iv'.form = formAfter iv.form i := by
  cases i with
  | self => cases h; rfl
  | range a b | rangeIncl a b =>
    rw [evalI] at h
    split at h
    · cases h; rfl
    · cases h
  | _ => cases h

theorem oob_not_ub {m : Mode} (hm : m ≠ .unchecked) : oob m ≠ .err .ub := by
  cases m with
  | unchecked => exact absurd rfl hm
  | _ => nofun

theorem leafAcc_not_ub (n : Nat) (iv : IV) (m : Mode) (hm : m ≠ .unchecked) : leafAcc n iv m ≠ .err .ub := by
  unfold leafAcc
  split
  · split
    · nofun
    · exact oob_not_ub hm
  · split
    · nofun
    · exact oob_not_ub hm
  · nofun

theorem buildLT_not_ub (iv : IV) (m : Mode) (hm : m ≠ .unchecked) : ∀ t : LT, buildLT iv m t ≠ .err .ub
  | .leaf n => leafAcc_not_ub n iv m hm
  | .nest fs => go fs
where go : ∀ fs : List LT, buildLT.go iv m fs ≠ .err .ub
  | [] => nofun
  | [f] => buildLT_not_ub iv m hm f
  | f :: g :: fs => by
    -- an error of the struct literal is an error of a field, or `stuck`
    have h1 := buildLT_not_ub iv m hm f
    have h2 := go (g :: fs)
    unfold buildLT.go
    split
    · simpa only [‹buildLT iv m f = _›] using h1
    · nofun
    · split
      · simpa only [‹buildLT.go iv m (g :: fs) = _›] using h2
      · nofun
      · split <;> nofun

/-- **soundness of the analysis**: an accessor the analysis accepts never performs an
    unchecked out-of-bounds access — on any tree of field lengths, for any index value -/
theorem eval_not_ub (table : Kind → Form → M → Option B) (p : Prof) (t : LT) :
    ∀ (fuel : Nat) (kind : Kind) (iv : IV) (b : B), safeB table fuel kind iv.form b = true →
      eval table p t fuel kind iv b ≠ .err .ub
  | 0, _, _, _, _ => nofun
  | fuel + 1, kind, iv, b, h => by
    cases b with
    | ite c th e =>
      have h := Bool.and_eq_true_iff.mp h
      rw [eval_ite]
      split
      · exact eval_not_ub table p t fuel kind iv th h.1
      · exact eval_not_ub table p t fuel kind iv e h.2
      · nofun
    | some b =>
      have ih := eval_not_ub table p t fuel kind iv b h
      rw [eval_some]
      split
      · nofun
      · nofun
      · simpa only [‹eval table p t fuel kind iv b = _›] using ih
    | call m i k =>
      rw [eval_call]
      split
      · nofun
      · rename_i iv' hi
        unfold runF
        split
        · rename_i b' hb
          have h : (match table (kindAfter kind k) (formAfter iv.form i) m with
            | some b' => safeB table fuel (kindAfter kind k) (formAfter iv.form i) b'
            | none => true) = true := h
          rw [← evalI_form p t iv iv' i hi, hb] at h
          exact eval_not_ub table p t fuel _ iv' b' h
        · nofun
    | build la nm =>
      rw [eval_build]
      split
      · exact buildLT_not_ub iv la.mode (bne_iff_ne.mp h) t
      · nofun
    | _ => nofun

end Soa.IdxIR
