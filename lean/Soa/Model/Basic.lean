import Soa.View
/-!
# Shapes, elements, events — shared vocabulary of the model and the specification
-/
namespace Soa

/-- struct shape: a field is a leaf array (with its payload kind: `z` zero-sized, `b` one
    byte, `s` 2..1024 bytes, `l` > 1024 bytes, `h` heap-owning) or a nested SoA -/
inductive Shape where
  | leaf (kind : Char)
  | nest (fs : List Shape)
  deriving Repr, Inhabited

/-- a shape is well formed when every struct has at least one field (`Input::new` asserts it) -/
def Shape.wf : Shape → Prop
  | .leaf _ => True
  | .nest fs => fs ≠ [] ∧ ∀ f ∈ fs, f.wf

@[simp] theorem Shape.wf_leaf : (Shape.leaf k).wf := by simp [Shape.wf]
@[simp] theorem Shape.wf_nest : (Shape.nest fs).wf ↔ fs ≠ [] ∧ ∀ f ∈ fs, f.wf := by simp [Shape.wf]

/-- payload kinds of the leaves, in declaration (DFS) order -/
def Shape.kinds : Shape → List Char
  | .leaf k => [k]
  | .nest fs => kindsL fs
where kindsL : List Shape → List Char
  | [] => []
  | f :: fs => f.kinds ++ kindsL fs

/-- the container of that shape in which every leaf array is `xs` -/
def Shape.fill (xs : List Nat) : Shape → Cols
  | .leaf _ => .leaf xs
  | .nest fs => .nest (fillL xs fs)
where fillL (xs : List Nat) : List Shape → List Cols
  | [] => []
  | f :: fs => f.fill xs :: fillL xs fs

/-- the empty container (`Vec::new()` in every field) -/
def Shape.empty (sh : Shape) : Cols := sh.fill []

/-- the element built from `tag`: leaf number `j` (DFS) carries the id `tag * 8 + j`;
    as a tree of one-element columns.  Returns the tree and the next free leaf number. -/
def Shape.elemAt (tag : Nat) : Shape → Nat → Cols × Nat
  | .leaf _, j => (.leaf [tag * 8 + j], j + 1)
  | .nest fs, j => let r := elemL tag fs j; (.nest r.1, r.2)
where elemL (tag : Nat) : List Shape → Nat → List Cols × Nat
  | [], j => ([], j)
  | f :: fs, j =>
    let r := f.elemAt tag j
    let r' := elemL tag fs r.2
    (r.1 :: r'.1, r'.2)

def Shape.elem (sh : Shape) (tag : Nat) : Cols := (sh.elemAt tag 0).1

/-- leaf columns in DFS order -/
def Cols.leaves : Cols → List (List Nat)
  | .leaf xs => [xs]
  | .nest fs => leavesL fs
where leavesL : List Cols → List (List Nat)
  | [] => []
  | c :: cs => c.leaves ++ leavesL cs

/-- all ids stored in a tree, DFS over leaves -/
def Cols.flat (c : Cols) : List Nat := c.leaves.flatten

/-- length of the first leaf array: what the generated `len()` returns -/
def Cols.firstLen (c : Cols) : Nat := (c.leaves.headD []).length

/-- the first leaf column: ids by which struct-destructor events are named -/
def Cols.firstLeaf (c : Cols) : List Nat := c.leaves.headD []

/-- leaf ids of one struct value, DFS -/
def Elem.ids : Elem → List Nat
  | .leaf v => [v]
  | .nest fs => idsL fs
where idsL : List Elem → List Nat
  | [] => []
  | e :: es => e.ids ++ idsL es

/-- events of one call, as multisets (lists up to permutation) -/
structure Ev where
  drops : List Nat := []    -- field values destroyed
  dropT : List Nat := []    -- struct destructor runs, named by the element's first leaf id
  clones : List Nat := []   -- `Clone::clone` calls, named by the cloned id
  deriving Repr, Inhabited

def Ev.append (a b : Ev) : Ev := ⟨a.drops ++ b.drops, a.dropT ++ b.dropT, a.clones ++ b.clones⟩
instance : Append Ev := ⟨Ev.append⟩

@[simp] theorem Ev.drops_append (a b : Ev) : (a ++ b).drops = a.drops ++ b.drops := rfl
@[simp] theorem Ev.dropT_append (a b : Ev) : (a ++ b).dropT = a.dropT ++ b.dropT := rfl
@[simp] theorem Ev.clones_append (a b : Ev) : (a ++ b).clones = a.clones ++ b.clones := rfl
@[simp] theorem Ev.append_empty (a : Ev) : a ++ ({} : Ev) = a := by
  show Ev.append a {} = a
  simp [Ev.append]
@[simp] theorem Ev.empty_append (a : Ev) : ({} : Ev) ++ a = a := by
  show Ev.append {} a = a
  simp [Ev.append]
theorem Ev.append_assoc (a b c : Ev) : a ++ b ++ c = a ++ (b ++ c) := by
  show Ev.append (Ev.append a b) c = Ev.append a (Ev.append b c)
  simp [Ev.append]

/-- events of destroying whole struct values held as a tree of columns (`k` rows):
    every field value dies, and the struct destructor runs once per row if it has one -/
def dropWhole (drops : Bool) (e : Cols) : Ev :=
  { drops := e.flat, dropT := if drops then e.firstLeaf else [] }

/-- the first id of a row names its struct-destructor run -/
def Elem.firstId (e : Elem) : Nat := e.ids.headD 0

/-- the same for rows -/
def dropRows (drops : Bool) (rs : List Elem) : Ev :=
  { drops := (rs.map Elem.ids).flatten, dropT := if drops then rs.map Elem.firstId else [] }

/-- events of destroying field values one array at a time (no struct destructor involved) -/
def dropFields (e : Cols) : Ev := { drops := e.flat }

end Soa
