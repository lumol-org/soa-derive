import Soa.Model.SkelSem
import Soa.Model.Views
/-!
# Meaning of the extracted skeletons: views, element references and pointer bundles

A generated view / reference / pointer value is one std value per field: a tree (`VT`) with
the struct's shape whose leaves are `LV`s — the length of a field `Vec`, the window of a
field slice in its parent array, the position of a field reference, a field raw pointer.
A generated method applies a per-field expression to every leaf (`viewLeaf`: Rust method
name and argument forms ↦ what std does to that one value); a nested field receives the
call of the same generated function (`nestOkView`), i.e. the recursion of `VT.mapR`.

`mapR_uniform` is the reason the hand-written model may speak of *one* window for a whole
view: on a tree whose leaves all carry the same value, the method yields a tree whose
leaves all carry the same result, for every shape.
-/
namespace Soa.Sk
open Soa View

inductive VT (α : Type) where
  | leaf (a : α)
  | nest (fs : List (VT α))
  deriving Repr

/-- outcome of evaluating a per-field expression / a generated function -/
inductive R (α : Type) where
  | ok (a : α)
  | panic
  | stuck        -- outside what the semantics covers (never on the unchanged tree: the `read_*` theorems)
  deriving Repr

def R.bind {α β : Type} (r : R α) (f : α → R β) : R β :=
  match r with | .ok a => f a | .panic => .panic | .stuck => .stuck

def R.map {α β : Type} (f : α → β) (r : R α) : R β := r.bind (fun a => .ok (f a))

/-- apply `g` to every leaf in declaration order; the first panic wins -/
def VT.mapR {α β : Type} (g : α → R β) : VT α → R (VT β)
  | .leaf a => (g a).map .leaf
  | .nest fs => (mapRL g fs).map .nest
where mapRL {α β : Type} (g : α → R β) : List (VT α) → R (List (VT β))
  | [] => .ok []
  | f :: fs => (f.mapR g).bind (fun f' => (mapRL g fs).map (f' :: ·))

/-- the tree of a given shape whose leaves all carry `a` -/
def VT.uniform {α : Type} (a : α) : Shape → VT α
  | .leaf _ => .leaf a
  | .nest fs => .nest (uniformL a fs)
where uniformL {α : Type} (a : α) : List Shape → List (VT α)
  | [] => []
  | f :: fs => VT.uniform a f :: uniformL a fs

/-- leftmost leaf (the first field: what `len()` / `is_empty()` read) -/
def VT.first {α : Type} : VT α → Option α
  | .leaf a => some a
  | .nest fs => firstL fs
where firstL {α : Type} : List (VT α) → Option α
  | [] => none
  | f :: _ => f.first

def VT.any {α : Type} (p : α → Bool) : VT α → Bool
  | .leaf a => p a
  | .nest fs => anyL p fs
where anyL {α : Type} (p : α → Bool) : List (VT α) → Bool
  | [] => false
  | f :: fs => f.any p || anyL p fs

theorem mapR_uniform {α β : Type} (g : α → R β) (a : α) : ∀ sh : Shape, sh.wf →
    (VT.uniform a sh).mapR g = (g a).map (fun b => VT.uniform b sh)
  | .leaf _, _ => rfl
  | .nest [], h => absurd rfl (Shape.wf_nest.mp h).1
  | .nest (f :: fs), h => by
    rw [VT.uniform, VT.mapR, go (f :: fs) (Shape.wf_nest.mp h).2]
    cases g a <;> rfl
where go : ∀ fs : List Shape, (∀ f ∈ fs, f.wf) → VT.mapR.mapRL g (VT.uniform.uniformL a fs) =
    if fs.isEmpty then .ok [] else (g a).map (fun b => VT.uniform.uniformL b fs)
  | [], _ => rfl
  | f :: fs, h => by
    rw [List.forall_mem_cons] at h
    rw [VT.uniform.uniformL, VT.mapR.mapRL, mapR_uniform g a f h.1, go fs h.2]
    cases g a <;> cases fs <;> rfl

theorem first_uniform {α : Type} (a : α) : ∀ sh : Shape, sh.wf → (VT.uniform a sh).first = some a
  | .leaf _, _ => rfl
  | .nest [], h => absurd rfl (Shape.wf_nest.mp h).1
  | .nest (f :: _), h => first_uniform a f ((Shape.wf_nest.mp h).2 f (.head _))

theorem any_uniform {α : Type} (p : α → Bool) (a : α) : ∀ sh : Shape, sh.wf → (VT.uniform a sh).any p = p a
  | .leaf _, _ => rfl
  | .nest [], h => absurd rfl (Shape.wf_nest.mp h).1
  | .nest (f :: fs), h => (go (f :: fs) (Shape.wf_nest.mp h).2).trans (Bool.true_and _)
where go : ∀ fs : List Shape, (∀ f ∈ fs, f.wf) → VT.any.anyL p (VT.uniform.uniformL a fs) = (!fs.isEmpty && p a)
  | [], _ => rfl
  | f :: fs, h => by
    rw [List.forall_mem_cons] at h
    rw [VT.uniform.uniformL, VT.any.anyL, any_uniform p a f h.1, go fs h.2]
    cases p a <;> simp

/-- one std value per field -/
inductive LV where
  | len (n : Nat)                 -- a field `Vec<F>`: its length
  | win (w : Win)                 -- a field slice: its window in the parent array
  | pos (p : Int)                 -- a field reference: its position in the parent array
  | ptr (p : Int) (null : Bool)   -- a field raw pointer
  | pair (a b : LV)
  deriving Repr, DecidableEq

/-- actual arguments of a view / pointer method, by parameter position -/
inductive VArg where
  | nat (n : Nat)
  | int (k : Int)
  | range (a b : Nat)
  | tree (t : VT LV)     -- a bundle passed by value (`data`)

def vNat (ps : List VArg) (k : Nat) : Option Nat := match ps[k]? with | some (.nat n) => some n | _ => none
def vInt (ps : List VArg) (k : Nat) : Option Int :=
  match ps[k]? with | some (.int n) => some n | some (.nat n) => some n | _ => none

def isSliceFromRawParts (p : List String) : Bool :=
  p == ["::", "std", "::", "slice", "::", "from_raw_parts"] || p == ["::", "std", "::", "slice", "::", "from_raw_parts_mut"]

/-- what std does to the value of one field -/
def viewLeaf (ps : List VArg) (fe : FE) (v : LV) : R LV :=
  match fe, v with
  -- a field `Vec`
  | .call "as_slice" [] .none, .len n => .ok (.win ⟨0, n⟩)
  | .call "as_mut_slice" [] .none, .len n => .ok (.win ⟨0, n⟩)
  | .index _ (.paramClone k), .len n =>
    (match ps[k]? with
     | some (.range a b) => if a ≤ b ∧ b ≤ n then .ok (.win ⟨a, b - a⟩) else .panic
     | _ => .stuck)
  | .call "as_ptr" [] .none, .len _ => .ok (.ptr 0 false)
  | .call "as_mut_ptr" [] .none, .len _ => .ok (.ptr 0 false)
  -- a field slice
  | .borrow _, .win w => .ok (.win w)
  | .copy, .win w => .ok (.win w)
  | .call "first" [] .unwrap, .win w => if w.l = 0 then .panic else .ok (.pos w.s)
  | .call "first_mut" [] .unwrap, .win w => if w.l = 0 then .panic else .ok (.pos w.s)
  | .call "last" [] .unwrap, .win w => if w.l = 0 then .panic else .ok (.pos (w.s + w.l - 1 : Nat))
  | .call "last_mut" [] .unwrap, .win w => if w.l = 0 then .panic else .ok (.pos (w.s + w.l - 1 : Nat))
  | .call "split_first" [] .unwrap, .win w => if w.l = 0 then .panic else .ok (.pair (.pos w.s) (.win ⟨w.s + 1, w.l - 1⟩))
  | .call "split_first_mut" [] .unwrap, .win w => if w.l = 0 then .panic else .ok (.pair (.pos w.s) (.win ⟨w.s + 1, w.l - 1⟩))
  | .call "split_last" [] .unwrap, .win w => if w.l = 0 then .panic else .ok (.pair (.pos (w.s + w.l - 1 : Nat)) (.win ⟨w.s, w.l - 1⟩))
  | .call "split_last_mut" [] .unwrap, .win w => if w.l = 0 then .panic else .ok (.pair (.pos (w.s + w.l - 1 : Nat)) (.win ⟨w.s, w.l - 1⟩))
  | .call "split_at" [.param k] .none, .win w =>
    (match vNat ps k with
     | some m => if m ≤ w.l then .ok (.pair (.win ⟨w.s, m⟩) (.win ⟨w.s + m, w.l - m⟩)) else .panic
     | none => .stuck)
  | .call "split_at_mut" [.param k] .none, .win w =>
    (match vNat ps k with
     | some m => if m ≤ w.l then .ok (.pair (.win ⟨w.s, m⟩) (.win ⟨w.s + m, w.l - m⟩)) else .panic
     | none => .stuck)
  | .call "as_ptr" [] .none, .win w => .ok (.ptr w.s false)
  | .call "as_mut_ptr" [] .none, .win w => .ok (.ptr w.s false)
  -- a field reference
  | .cast _, .pos p => .ok (.ptr p false)
  | .borrow _, .pos p => .ok (.pos p)
  -- a field raw pointer
  | .cast _, .ptr p n => .ok (.ptr p n)
  | .call "add" [.param k] .none, .ptr p n => (match vNat ps k with | some c => .ok (.ptr (p + c) n) | none => .stuck)
  | .call "wrapping_add" [.param k] .none, .ptr p n => (match vNat ps k with | some c => .ok (.ptr (p + c) n) | none => .stuck)
  | .call "sub" [.param k] .none, .ptr p n => (match vNat ps k with | some c => .ok (.ptr (p - c) n) | none => .stuck)
  | .call "wrapping_sub" [.param k] .none, .ptr p n => (match vNat ps k with | some c => .ok (.ptr (p - c) n) | none => .stuck)
  | .call "offset" [.param k] .none, .ptr p n => (match vInt ps k with | some c => .ok (.ptr (p + c) n) | none => .stuck)
  | .call "wrapping_offset" [.param k] .none, .ptr p n => (match vInt ps k with | some c => .ok (.ptr (p + c) n) | none => .stuck)
  | .call "as_ref" [] .expectNonNull, .ptr p n => if n then .panic else .ok (.pos p)
  | .call "as_mut" [] .expectNonNull, .ptr p n => if n then .panic else .ok (.pos p)
  | .path q [.field _, .param k], .ptr p n =>
    if isSliceFromRawParts q then
      (match vNat ps k with
       | some len => if n = false ∧ 0 ≤ p then .ok (.win ⟨p.toNat, len⟩) else .stuck
       | none => .stuck)
    else .stuck
  | _, _ => .stuck

/-- Proved by rewriting with the equations of `viewLeaf`, so that Lean generates them here, once: generating them takes
    seconds, and a module that rewrites with `viewLeaf` would otherwise do it again. -/
theorem viewLeaf_borrow_pos (ps : List VArg) (m : Bool) (p : Int) : viewLeaf ps (.borrow m) (.pos p) = .ok (.pos p) := by
  rw [viewLeaf]

/-- the nested field gets the call of the same generated function (with the same arguments) -/
def nestOkView (own : String) (leaf nest : FE) : Bool :=
  match leaf, nest with
  | .call m a p, .call m' a' p' => m == own && m' == own && a == a' && p == p'
  | .index _ a, .call m' [a'] .none => m' == own && a == a'
  | .borrow _, .call m' [] .none => m' == own
  | .copy, .call m' [] .none => m' == own
  | .cast _, .call m' [] .none => m' == own
  | .path q args, .path [t, "::", m'] args' =>
    isSliceFromRawParts q && m' == own && args == args' && (t == "§TSlice" || t == "§TSliceMut")
  | _, _ => false

/-- which value the repetition ranges over: `self`, or the bundle parameter of `from_raw_parts` -/
def subject (self : VT LV) (ps : List VArg) : FE → Option (VT LV)
  | .path _ (.field d :: _) => match ps[d]? with | some (.tree t) => some t | _ => none
  | _ => some self

def isNullLV : LV → Bool | .ptr _ n => n | _ => false
def isEmptyLV : LV → Option Bool | .win w => some (w.l == 0) | .len n => some (n == 0) | _ => none

def unzipVT : VT LV → Option (VT LV × VT LV)
  | .leaf (.pair a b) => some (.leaf a, .leaf b)
  | .leaf _ => none
  | .nest fs => (unzipL fs).map (fun p => (.nest p.1, .nest p.2))
where unzipL : List (VT LV) → Option (List (VT LV) × List (VT LV))
  | [] => some ([], [])
  | f :: fs => match unzipVT f, unzipL fs with
    | some (a, b), some (as, bs) => some (a :: as, b :: bs)
    | _, _ => none

/-- result of a view method: `None`, one value, or a pair of values -/
inductive VOut where
  | none_
  | one (t : VT LV)
  | two (a b : VT LV)
  deriving Repr

def itemExpr : Item → Option FE
  | .init e | .letP _ e | .letF e | .letPair _ _ e => some e
  | _ => none

/-- outcome of a generated view / reference / pointer method, from its skeleton -/
def runViewSk (own : String) (sk : Sk) (self : VT LV) (ps : List VArg) : R VOut :=
  let core (pre : Pre) (leaf nest : Item) (k : VT LV → R VOut) : R VOut :=
    match itemExpr leaf, itemExpr nest with
    | some le, some ne =>
      if !nestOkView own le ne then .stuck else
      match subject self ps le with
      | none => .stuck
      | some t =>
        -- `if self.is_null() { None }` / `if self.is_empty() { None }`
        if pre.nullNone ∧ self.any isNullLV then .ok .none_ else
        match (if pre.emptyNone then (self.first.bind isEmptyLV) else some false) with
        | none => .stuck
        | some true => .ok .none_
        | some false => (t.mapR (viewLeaf ps le)).bind k
    | _, _ => .stuck
  match sk with
  | .lit pre _ leaf nest ws =>
    if pre.guard.isSome ∨ pre.md.isSome ∨ pre.emptyNone ∨ ws ≠ pre.nullNone then .stuck
    else core pre leaf nest (fun t => .ok (.one t))
  | .lets pre leaf nest _ _ ws fg =>
    if pre.guard.isSome ∨ pre.md.isSome ∨ pre.nullNone ∨ fg.isSome ∨ ws ≠ pre.emptyNone then .stuck
    else core pre leaf nest (fun t => .ok (.one t))
  | .pairs pre leaf nest _ _ _ _ ws =>
    if pre.guard.isSome ∨ pre.md.isSome ∨ pre.nullNone ∨ ws ≠ pre.emptyNone then .stuck
    else core pre leaf nest (fun t => match unzipVT t with | some (a, b) => .ok (.two a b) | none => .stuck)
  | _ => .stuck

def runView (f : Fn) (self : VT LV) (ps : List VArg) : R VOut := runViewSk f.name (skOf f) self ps

theorem unzip_uniform (a b : LV) : ∀ sh : Shape, unzipVT (VT.uniform (.pair a b) sh) = some (VT.uniform a sh, VT.uniform b sh)
  | .leaf _ => rfl
  | .nest fs => by rw [VT.uniform, unzipVT, go fs]; rfl
where go : ∀ fs : List Shape, unzipVT.unzipL (VT.uniform.uniformL (.pair a b) fs) =
    some (VT.uniform.uniformL a fs, VT.uniform.uniformL b fs)
  | [] => rfl
  | f :: fs => by rw [VT.uniform.uniformL, unzipVT.unzipL, unzip_uniform a b f, go fs]; rfl

@[simp] theorem R.ok_bind {α β : Type} (a : α) (f : α → R β) : (R.ok a).bind f = f a := rfl
@[simp] theorem R.panic_bind {α β : Type} (f : α → R β) : (R.panic : R α).bind f = .panic := rfl

theorem nestOkView_call (m : String) (a : List Arg) (p : Post) : nestOkView m (.call m a p) (.call m a p) = true := by
  simp [nestOkView]
theorem nestOkView_index (m : String) (b : Bool) (a : Arg) : nestOkView m (.index b a) (.call m [a] .none) = true := by
  simp [nestOkView]
theorem nestOkView_borrow (m : String) (b : Bool) : nestOkView m (.borrow b) (.call m [] .none) = true := by
  simp [nestOkView]
theorem nestOkView_copy (m : String) : nestOkView m .copy (.call m [] .none) = true := by simp [nestOkView]
theorem nestOkView_cast (m : String) (b : Bool) : nestOkView m (.cast b) (.call m [] .none) = true := by simp [nestOkView]
theorem nestOkView_path (m : String) (args : List Arg) {q : List String} {t : String} (hq : isSliceFromRawParts q = true)
    (ht : t = "§TSlice" ∨ t = "§TSliceMut") : nestOkView m (.path q args) (.path [t, "::", m] args) = true := by
  simp [nestOkView, hq, ht]

/-- the per-field part of a method on a value whose fields all carry `a`: the `None` tests of the prologue and the std
    call see `a` alone, and `k` receives the value whose fields all carry the answer -/
def onUniform (pre : Pre) (ps : List VArg) (le : FE) (a : LV) (sh : Shape) (k : VT LV → R VOut) : R VOut :=
  if pre.nullNone ∧ isNullLV a then .ok .none_ else
  match (if pre.emptyNone then isEmptyLV a else some false) with
  | none => .stuck
  | some true => .ok .none_
  | some false => (viewLeaf ps le a).bind (fun b => k (VT.uniform b sh))

theorem onUniform_plain (ps : List VArg) (le : FE) (a : LV) (sh : Shape) (k : VT LV → R VOut) :
    onUniform {} ps le a sh k = (viewLeaf ps le a).bind (fun b => k (VT.uniform b sh)) := rfl

theorem onUniform_nullNone (ps : List VArg) (le : FE) (p : Int) (n : Bool) (sh : Shape) (k : VT LV → R VOut) :
    onUniform { nullNone := true } ps le (.ptr p n) sh k =
      if n then .ok .none_ else (viewLeaf ps le (.ptr p n)).bind (fun b => k (VT.uniform b sh)) := by
  cases n <;> rfl

theorem onUniform_emptyNone (ps : List VArg) (le : FE) (w : Win) (sh : Shape) (k : VT LV → R VOut) :
    onUniform { emptyNone := true } ps le (.win w) sh k =
      if w.l = 0 then .ok .none_ else (viewLeaf ps le (.win w)).bind (fun b => k (VT.uniform b sh)) := by
  have hb : (w.l == 0) = decide (w.l = 0) := rfl
  by_cases h : w.l = 0 <;> simp [onUniform, isEmptyLV, hb, h]

theorem R.map_bind {α β γ : Type} (r : R α) (f : α → β) (k : β → R γ) : (r.map f).bind k = r.bind (fun a => k (f a)) := by
  cases r <;> rfl

section uniform
variable {sh : Shape} {f : Fn} {pre : Pre} {leaf nest : Item} {le ne : FE} {a : LV} {self : VT LV} {ps : List VArg}

theorem runView_lit {ty : Ty} {ws : Bool} (hr : skOf f = .lit pre ty leaf nest ws)
    (hok : (pre.guard.isSome || pre.md.isSome || pre.emptyNone || ws != pre.nullNone) = false)
    (hle : itemExpr leaf = some le) (hne : itemExpr nest = some ne) (hn : nestOkView f.name le ne = true) (hw : sh.wf)
    (hs : subject self ps le = some (VT.uniform a sh)) (hN : pre.nullNone = true → self.any isNullLV = isNullLV a) :
    runView f self ps = onUniform pre ps le a sh (fun t => .ok (.one t)) := by
  simp only [Bool.or_eq_false_iff, bne_eq_false_iff_eq] at hok
  obtain ⟨⟨⟨hg, hm⟩, he⟩, rfl⟩ := hok
  have hc : (pre.nullNone = true ∧ self.any isNullLV = true) ↔ (pre.nullNone = true ∧ isNullLV a = true) :=
    and_congr_right fun h => by rw [hN h]
  -- the hypotheses decide every test of `runViewSk`; what it then maps over the fields is `mapR_uniform`
  simp [runView, hr, runViewSk, hg, hm, he, hle, hne, hn, hs, mapR_uniform _ _ _ hw, onUniform, R.map_bind, hc]

theorem runView_plain {ty : Ty} (hr : skOf f = .lit {} ty (.init le) (.init ne) false) (hn : nestOkView f.name le ne = true)
    (hw : sh.wf) (hs : subject self ps le = some (VT.uniform a sh)) :
    runView f self ps = (viewLeaf ps le a).bind (fun b => .ok (.one (VT.uniform b sh))) :=
  runView_lit hr rfl rfl rfl hn hw hs nofun

theorem emptyTest_first (hE : pre.emptyNone = true → self.first = some a) :
    (if pre.emptyNone then self.first.bind isEmptyLV else some false) = if pre.emptyNone then isEmptyLV a else some false :=
  ite_congr rfl (fun h => by rw [hE h]; rfl) fun _ => rfl

theorem runView_lets {ty : Ty} {fam : String} {ws : Bool} {fg : Option Nat} (hr : skOf f = .lets pre leaf nest ty fam ws fg)
    (hok : (pre.guard.isSome || pre.md.isSome || pre.nullNone || fg.isSome || ws != pre.emptyNone) = false)
    (hle : itemExpr leaf = some le) (hne : itemExpr nest = some ne) (hn : nestOkView f.name le ne = true) (hw : sh.wf)
    (hs : subject self ps le = some (VT.uniform a sh)) (hE : pre.emptyNone = true → self.first = some a) :
    runView f self ps = onUniform pre ps le a sh (fun t => .ok (.one t)) := by
  simp only [Bool.or_eq_false_iff, bne_eq_false_iff_eq] at hok
  obtain ⟨⟨⟨⟨hg, hm⟩, he⟩, hf⟩, rfl⟩ := hok
  simp [runView, hr, runViewSk, hg, hm, he, hf, hle, hne, hn, hs, mapR_uniform _ _ _ hw, onUniform, R.map_bind, emptyTest_first hE]

theorem runView_pairs {ty1 ty2 : Ty} {f1 f2 : String} {ws : Bool} (hr : skOf f = .pairs pre leaf nest ty1 ty2 f1 f2 ws)
    (hok : (pre.guard.isSome || pre.md.isSome || pre.nullNone || ws != pre.emptyNone) = false)
    (hle : itemExpr leaf = some le) (hne : itemExpr nest = some ne) (hn : nestOkView f.name le ne = true) (hw : sh.wf)
    (hs : subject self ps le = some (VT.uniform a sh)) (hE : pre.emptyNone = true → self.first = some a) :
    runView f self ps = onUniform pre ps le a sh
      (fun t => match unzipVT t with | some (x, y) => .ok (.two x y) | none => .stuck) := by
  simp only [Bool.or_eq_false_iff, bne_eq_false_iff_eq] at hok
  obtain ⟨⟨⟨hg, hm⟩, he⟩, rfl⟩ := hok
  simp [runView, hr, runViewSk, hg, hm, he, hle, hne, hn, hs, mapR_uniform _ _ _ hw, onUniform, R.map_bind, emptyTest_first hE]

end uniform

/-! ## pointer bundles: `is_null`, reads and writes through a bundle that designates one position -/

/-- `is_null()`: `false || #( self.§.is_null() )||*` — some component pointer is null -/
def runIsNull (f : Fn) (self : VT LV) : Option Bool :=
  match skOf f with
  | .orFold (.stmt (.call "is_null" [] .none)) (.stmt (.call "is_null" [] .none)) =>
    if f.name = "is_null" then some (self.any isNullLV) else none
  | _ => none

def isPtrRead (m : String) : Bool := m = "read" || m = "read_volatile" || m = "read_unaligned"
def isPtrWrite (m : String) : Bool := m = "write" || m = "write_volatile" || m = "write_unaligned"

/-- `ptr.read*()` through a bundle designating position `p` of every field of `c`: a bitwise copy of that row -/
def runPtrRead (f : Fn) (c : Cols) (p : Nat) : Option Model.Out :=
  match skOf f with
  | .lit pre .elem (.init (.call m [] .none)) (.init (.call m' [] .none)) false =>
    if pre == {} ∧ m = f.name ∧ m' = f.name ∧ isPtrRead m then some { st := c, ret := some (Model.rowCols c p) } else none
  | _ => none

/-- `ptr.write*(val)` through a bundle designating position `p` of every field of `c`: per field
    `self.§.write(ptr::read(&val.§))`, then `forget(val)`.  The overwritten bits are handed back (`ret`): they
    are not destroyed by the write. -/
def runPtrWrite (dr : Bool) (f : Fn) (c : Cols) (p : Nat) (e : Cols) : Option Model.Out :=
  match skOf f with
  | .stmts pre (.stmt (.call m [.moveIn 0] .none)) (.stmt (.call m' [.moveIn 0] .none)) fg =>
    if m = f.name ∧ m' = f.name ∧ isPtrWrite m ∧ pre.guard = none ∧ pre.emptyNone = false ∧ pre.nullNone = false then
      let r := c.apply2 (replaceOp p) e
      if r.panicked then none   -- out of bounds: undefined behaviour, outside the property
      else some { st := r.st, ret := some r.out, ev := moveInEv dr (pre.md == some 0) (fg == some 0) false e }
    else none
  | _ => none

end Soa.Sk
