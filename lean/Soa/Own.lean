import Soa.Ops
namespace Soa

/-- all ids stored in a container tree (DFS over leaves) -/
def Cols.ids : Cols → List Nat
  | .leaf xs => xs
  | .nest fs => idsL fs
where idsL : List Cols → List Nat
  | [] => []
  | c :: cs => c.ids ++ idsL cs

/-- an op is linear if it neither duplicates nor discards values -/
def PolyOp.Linear (op : PolyOp) : Prop :=
  ∀ {α : Type} (xs as : List α) (r : List α × List α), op.run xs as = some r → (r.1 ++ r.2).Perm (xs ++ as)

theorem perm_mid {α : Type} (a b c : List α) : (a ++ b ++ c).Perm (a ++ c ++ b) := by
  simp only [List.append_assoc]
  exact List.Perm.append_left _ List.perm_append_comm

theorem perm_mid' {α : Type} (a b c : List α) : (a ++ (b ++ c)).Perm (a ++ c ++ b) :=
  List.append_assoc a b c ▸ perm_mid a b c

/-- two containers side by side, regrouped field by field -/
theorem perm_interleave {α : Type} (a b c d : List α) : (a ++ b ++ (c ++ d)).Perm (a ++ c ++ (b ++ d)) := by
  rw [← List.append_assoc, ← List.append_assoc]
  exact List.Perm.append_right d (perm_mid a b c)

/-- no shape hypothesis: where the shapes differ, or after a panic, the remaining fields are left as they are -/
theorem apply2_ids (op : PolyOp) (hl : op.Linear) :
    ∀ c a : Cols, ((c.apply2 op a).st.ids ++ (c.apply2 op a).out.ids).Perm (c.ids ++ a.ids)
  | .leaf xs, .leaf as => by
    rw [Cols.apply2]
    cases hr : op.run xs as with
    | none => exact .refl _
    | some r => exact hl xs as r hr
  | .nest fs, .nest gs => go fs gs
  | .leaf _, .nest _ => .refl _
  | .nest _, .leaf _ => .refl _
where go : ∀ fs gs : List Cols,
    (Cols.ids.idsL (Cols.apply2.apply2L op fs gs).1 ++ Cols.ids.idsL (Cols.apply2.apply2L op fs gs).2.1).Perm
        (Cols.ids.idsL fs ++ Cols.ids.idsL gs)
  | [], _ => .refl _
  | _ :: _, [] => .refl _
  | c :: cs, a :: as => by
    have ih := apply2_ids op hl c a
    rw [Cols.apply2.apply2L]
    -- the first field conserves its ids (also when it panics); the others by induction, or untouched after a panic
    split
    · exact (perm_interleave _ _ _ _).trans ((ih.append_right _).trans (perm_interleave _ _ _ _))
    · exact (perm_interleave _ _ _ _).trans ((ih.append (go cs as)).trans (perm_interleave _ _ _ _))

theorem apply2_linear (op : PolyOp) (hl : op.Linear) :
    ∀ c a : Cols, c.same a →
      ((c.apply2 op a).st.ids ++ (c.apply2 op a).out.ids).Perm (c.ids ++ a.ids) :=
  fun c a _ => apply2_ids op hl c a

theorem PolyOp.ofTotal_linear {ok f hnat}
    (h : ∀ {α : Type} (xs as : List α), ok xs.length as.length = true →
      ((f xs as).1 ++ (f xs as).2).Perm (xs ++ as)) : (PolyOp.ofTotal ok f hnat).Linear := by
  intro α xs as r hr
  simp only [PolyOp.ofTotal_run] at hr
  split at hr
  · next hok =>
    cases hr
    exact h xs as hok
  · cases hr

theorem PolyOp.ofTotal_linear0 {ok f hnat} (hk : ∀ n k, ok n k = true → k = 0)
    (h : ∀ {α : Type} (xs : List α), ((f xs []).1 ++ (f xs []).2).Perm xs) :
    (PolyOp.ofTotal ok f hnat).Linear :=
  PolyOp.ofTotal_linear fun xs as hok => by
    cases List.eq_nil_of_length_eq_zero (hk _ _ hok)
    simpa using h xs

theorem append_linear : appendOp.Linear :=
  PolyOp.ofTotal_linear (by intros; simp)

theorem insert_linear (i : Nat) : (insertOp i).Linear :=
  PolyOp.ofTotal_linear fun xs as _ => by
    simpa using perm_mid (xs.take i) as (xs.drop i)

theorem take_drop_succ_perm {α : Type} (xs : List α) (i : Nat) :
    (xs.take i ++ xs.drop (i+1) ++ (xs.drop i).take 1).Perm xs := by
  have h : xs.take i ++ (xs.drop i).take 1 ++ xs.drop (i+1) = xs := by
    rw [List.append_assoc, ← List.drop_drop, List.take_append_drop, List.take_append_drop]
  exact (perm_mid _ _ _).trans (.of_eq h)

theorem remove_linear (i : Nat) : (removeOp i).Linear :=
  PolyOp.ofTotal_linear0 (by simp) fun xs => take_drop_succ_perm xs i

theorem pop_linear : popOp.Linear :=
  PolyOp.ofTotal_linear0 (by simp) (by simp)

theorem splitOff_linear (k : Nat) : (splitOffOp k).Linear :=
  PolyOp.ofTotal_linear0 (by simp) (by simp)

theorem truncate_linear (k : Nat) : (truncateOp k).Linear :=
  PolyOp.ofTotal_linear0 (by simp) (by simp)

theorem replace_linear (i : Nat) : (replaceOp i).Linear :=
  PolyOp.ofTotal_linear fun xs as _ =>
    -- the value moved in goes past the tail, then past the value handed out
    ((perm_mid _ as _).append_right _).trans
      ((perm_mid _ as _).trans ((take_drop_succ_perm xs i).append_right as))

theorem swapRemove_linear (i : Nat) : (swapRemoveOp i).Linear :=
  PolyOp.ofTotal_linear0 (by simp) fun xs => by
    simpa using swapList_perm xs i (xs.length - 1)

theorem swap_linear (a b : Nat) : (swapOp a b).Linear :=
  PolyOp.ofTotal_linear0 (by simp) fun xs => by simpa using swapList_perm xs a b

end Soa
