import Soa.Core
/-!
# The std operations the generated code calls on every field array

Each one is a `PolyOp`: a partial list operation with an argument column and a result
column, natural in the element type, whose failure (= panic of the std call) is decided
by the two lengths.  Operations without an argument require the empty argument column
(`k = 0`); the model always passes it.

Validated against the real std on every run by the std-mirror ↔ spec comparison.
-/
namespace Soa

/-- build a `PolyOp` from a length guard and a total natural function -/
def PolyOp.ofTotal (ok : Nat → Nat → Bool)
    (f : {α : Type} → List α → List α → List α × List α)
    (hnat : ∀ {α β : Type} (g : α → β) (xs as : List α),
      f (xs.map g) (as.map g) = ((f xs as).1.map g, (f xs as).2.map g)) : PolyOp where
  run xs as := if ok xs.length as.length then some (f xs as) else none
  fails n k := !ok n k
  fail_iff xs as := by cases h : ok xs.length as.length <;> simp [h]
  nat g xs as := by
    cases h : ok xs.length as.length <;> simp [h, hnat]

@[simp] theorem PolyOp.ofTotal_run {ok f hnat} {α : Type} (xs as : List α) :
    (PolyOp.ofTotal ok f hnat).run xs as = if ok xs.length as.length then some (f xs as) else none := rfl
@[simp] theorem PolyOp.ofTotal_fails {ok f hnat} (n k : Nat) :
    (PolyOp.ofTotal ok f hnat).fails n k = !ok n k := rfl

/-- `Vec::push` / `Vec::append` / `Extend`: the argument column is appended. -/
def appendOp : PolyOp :=
  .ofTotal (fun _ _ => true) (fun xs as => (xs ++ as, [])) (by intros; simp)

/-- `Vec::insert(i, a)`: argument column spliced in at `i`; panics iff `i > len`. -/
def insertOp (i : Nat) : PolyOp :=
  .ofTotal (fun n _ => decide (i ≤ n)) (fun xs as => (xs.take i ++ as ++ xs.drop i, []))
    (by intros; simp [List.map_take, List.map_drop])

/-- `Vec::remove(i)`: panics iff `i ≥ len`; result column = the removed value. -/
def removeOp (i : Nat) : PolyOp :=
  .ofTotal (fun n k => decide (i < n) && k == 0)
    (fun xs _ => (xs.take i ++ xs.drop (i+1), (xs.drop i).take 1))
    (by intros; simp [List.map_take, List.map_drop])

/-- `Vec::pop().unwrap()`: panics iff empty. -/
def popOp : PolyOp :=
  .ofTotal (fun n k => decide (0 < n) && k == 0)
    (fun xs _ => (xs.take (xs.length - 1), xs.drop (xs.length - 1)))
    (by intros; simp [List.map_take, List.map_drop])

/-- `mem::replace(&mut v[i], a)`: panics iff `i ≥ len`; result column = the old value. -/
def replaceOp (i : Nat) : PolyOp :=
  .ofTotal (fun n _ => decide (i < n))
    (fun xs as => (xs.take i ++ as ++ xs.drop (i+1), (xs.drop i).take 1))
    (by intros; simp [List.map_take, List.map_drop])

/-- `Vec::truncate(k)` (and `clear` = `truncate 0`): result column = the discarded suffix. -/
def truncateOp (k : Nat) : PolyOp :=
  .ofTotal (fun _ j => j == 0) (fun xs _ => (xs.take k, xs.drop k))
    (by intros; simp [List.map_take, List.map_drop])

/-- `Vec::split_off(at)`: panics iff `at > len`; result column = the tail. -/
def splitOffOp (at_ : Nat) : PolyOp :=
  .ofTotal (fun n k => decide (at_ ≤ n) && k == 0) (fun xs _ => (xs.take at_, xs.drop at_))
    (by intros; simp [List.map_take, List.map_drop])

theorem set_self {α : Type} (xs : List α) (i : Nat) (x : α) (h : xs[i]? = some x) : xs.set i x = xs := by
  obtain ⟨hi, rfl⟩ := List.getElem?_eq_some_iff.mp h
  exact List.set_getElem_self hi

/-- swap of two positions of a list (total; identity when out of range) -/
def swapList {α : Type} (xs : List α) (a b : Nat) : List α :=
  match xs[a]?, xs[b]? with
  | some x, some y => (xs.set a y).set b x
  | _, _ => xs

theorem map_swapList {α β : Type} (f : α → β) (xs : List α) (a b : Nat) :
    swapList (xs.map f) a b = (swapList xs a b).map f := by
  unfold swapList
  cases ha : xs[a]? <;> cases hb : xs[b]? <;> simp [ha, hb, List.map_set]

@[simp] theorem length_swapList {α : Type} (xs : List α) (a b : Nat) :
    (swapList xs a b).length = xs.length := by
  unfold swapList
  cases xs[a]? <;> cases xs[b]? <;> simp

theorem swapList_perm {α : Type} (xs : List α) (a b : Nat) : (swapList xs a b).Perm xs := by
  unfold swapList
  cases ha : xs[a]? with
  | none => simp
  | some x =>
    cases hb : xs[b]? with
    | none => simp
    | some y =>
      obtain ⟨h1, e1⟩ := List.getElem?_eq_some_iff.mp ha
      obtain ⟨h2, e2⟩ := List.getElem?_eq_some_iff.mp hb
      simp only
      rw [← e1, ← e2]
      exact List.set_set_perm h1 h2

/-- `Vec::swap_remove(i)`: swap with the last value, then pop it. -/
def swapRemoveOp (i : Nat) : PolyOp :=
  .ofTotal (fun n k => decide (i < n) && k == 0)
    (fun xs _ => ((swapList xs i (xs.length - 1)).take (xs.length - 1),
                  (swapList xs i (xs.length - 1)).drop (xs.length - 1)))
    (by intros; simp [List.map_take, List.map_drop, map_swapList])

/-- `slice::swap(a, b)`: panics iff an index is out of range. -/
def swapOp (a b : Nat) : PolyOp :=
  .ofTotal (fun n k => decide (a < n) && decide (b < n) && k == 0) (fun xs _ => (swapList xs a b, []))
    (by intros; simp [map_swapList])

/-- valid index list for a gather of a column of length `n` (what `permutation` asserts) -/
def gatherOk (p : List Nat) (n : Nat) : Bool := p.length == n && p.all (· < n)

/-- permutation gather `new[i] = old[p[i]]`: the functional specification of
    `Permutation::oneline(p).inverse().apply_slice_in_place`. -/
def gatherOp (p : List Nat) : PolyOp :=
  .ofTotal (fun n k => gatherOk p n && k == 0) (fun xs _ => (p.filterMap (xs[·]?), []))
    (by intros; simp [List.map_filterMap])

/-- reading the positions `is` (a window, one position, …) without changing the column -/
def pickOp (is : List Nat) : PolyOp :=
  .ofTotal (fun n _ => is.all (· < n)) (fun xs _ => (xs, is.filterMap (xs[·]?)))
    (by intros; simp [List.map_filterMap])

/-- `Vec::resize(new_len, a)` on one field with the value column `[a]`: grows by copies of
    the argument (clones are copies of the id), or truncates; the result column is what
    is destroyed (the truncated suffix, and the value itself when nothing is appended). -/
def resizeOp (newLen : Nat) : PolyOp :=
  .ofTotal (fun _ _ => true)
    (fun xs as => if newLen ≤ xs.length then (xs.take newLen, xs.drop newLen ++ as)
      else (xs ++ (List.replicate (newLen - xs.length) as).flatten, []))
    (by
      intro α β g xs as
      by_cases h : newLen ≤ xs.length <;>
        simp [h, List.map_take, List.map_drop, List.map_flatten, List.map_replicate])

/-- `Vec::extend_from_slice(src)`: clones of the source column are appended; the source
    column is handed back unchanged (it is only borrowed). -/
def extendCloneOp : PolyOp :=
  .ofTotal (fun _ _ => true) (fun xs as => (xs ++ as, as)) (by intros; simp)

end Soa
