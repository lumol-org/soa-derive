import Soa.Lemmas.Positions
/-!
# C11 — nested SoA behaves as if flattened

`flatten c` is the container of the equivalent struct with the nested fields written
inline: one level, the same leaf arrays in declaration order.  Because the whole model is
generic in the tree, C01–C10 are already proved for nested shapes of any depth; this file
adds the equivalence with the flattened twin:
* same leaf arrays (`leaves_flatten`) — every leaf array of every nested container has the
  outer container's length exactly when the flattened container is in lockstep
  (`lock_flatten`, `lock_of_flatten`);
* the rows correspond one to one, row `i` of the twin is row `i` with the nested struct
  values inlined (`rows_flatten`): position `i` of every leaf holds part of logical element `i`;
* **every per-field operation** (every `PolyOp`: the std calls behind push, insert, remove,
  swap_remove, pop, replace, truncate, append, split_off, swap, gathers/sorts, windows,
  resize, extend_from_slice) acts on the leaf arrays of a nested container exactly as on
  those of its flattened twin — same leaf arrays left behind, same leaf arrays handed back,
  same panic (`apply2_flatten`, with the leaf-by-leaf characterisation `apply2_leaves`).
  Everything observable (public field arrays, returned elements, views, iterator yields,
  pointer reads) is a function of the leaf arrays.
-/
namespace Soa.C11

/-- the flattened twin: nested fields written inline -/
def flatten (c : Cols) : Cols := .nest (c.leaves.map .leaf)

/-- a struct value with its nested struct values inlined -/
def flattenElem (e : Elem) : Elem := .nest (e.ids.map .leaf)

theorem leavesL_map_leaf : ∀ ls : List (List Nat), Cols.leaves.leavesL (ls.map Cols.leaf) = ls
  | [] => rfl
  | l :: ls => congrArg (l :: ·) (leavesL_map_leaf ls)

/-- the twin has the very same leaf arrays, in the same order -/
theorem leaves_flatten (c : Cols) : (flatten c).leaves = c.leaves := leavesL_map_leaf c.leaves

/-- lockstep of the nested container ⇒ lockstep of the twin -/
theorem lock_flatten (c : Cols) (n : Nat) (h : c.lock n) : (flatten c).lock n :=
  lock_nest.mpr ⟨fun he => leaves_ne_nil c n h (List.map_eq_nil_iff.mp he),
    List.forall_mem_map.mpr fun l hl => lock_leaf.mpr (leaves_lock n c h l hl)⟩

/-- lockstep of the twin ⇒ every leaf array of every nested container has the outer length -/
theorem lock_of_flatten (c : Cols) (n : Nat) (h : (flatten c).lock n) : ∀ l ∈ c.leaves, l.length = n :=
  leaves_flatten c ▸ leaves_lock n (flatten c) h

theorem rows_leaf (l : List Nat) : (Cols.leaf l).rows = (List.range l.length).map fun i => Elem.leaf (l.getD i 0) :=
  (congrArg (List.map Elem.leaf) (map_getD_range l 0).symm).trans List.map_map

/-- rows of a one-level container of leaf arrays are one-level struct values: every leaf array is the list of
    its own reads (`map_getD_range`), so the `zipWith` of `rowsL` is a single `map` over the positions -/
theorem rowsL_leaves : ∀ (ls : List (List Nat)) (n : Nat), ls ≠ [] → (∀ l ∈ ls, l.length = n) →
    Cols.rows.rowsL (ls.map Cols.leaf) = (List.range n).map (fun i => ls.map (fun l => Elem.leaf (l.getD i 0)))
  | [], _, h, _ => absurd rfl h
  | [l], n, _, hl => by
    obtain rfl := hl l (.head _)
    rw [List.map_singleton, Cols.rows.rowsL, rows_leaf, List.map_map]
    rfl
  | l :: l' :: ls, n, _, hl => by
    obtain rfl := hl l (.head _)
    have ih := rowsL_leaves (l' :: ls) l.length nofun fun x hx => hl x (.tail _ hx)
    rw [List.map_cons] at ih ⊢
    rw [List.map_cons, Cols.rows.rowsL, ih, rows_leaf, List.zipWith_map, List.zipWith_self]
    rfl

/-- **rows correspond**: row `i` of the flattened twin is row `i` of the nested container
    with the nested values inlined -/
theorem rows_flatten (c : Cols) (n : Nat) (h : c.lock n) : (flatten c).rows = c.rows.map flattenElem := by
  rw [flatten, Cols.rows, rowsL_leaves c.leaves n (leaves_ne_nil c n h) (leaves_lock n c h), List.map_map]
  conv => rhs; rw [← map_getD_range c.rows (.leaf 0), rows_len n c h, List.map_map]
  refine List.map_congr_left fun i hi => ?_
  obtain ⟨r, hr1, hr2⟩ := rowIds_eq c n i h (List.mem_range.mp hi)
  simp [flattenElem, List.getD_eq_getElem?_getD, hr1, ← hr2, View.rowIds]

/-- what one std call does to one field array -/
def leafSt (op : PolyOp) (xs as : List Nat) : List Nat := ((op.run xs as).getD (xs, as)).1
def leafOut (op : PolyOp) (xs as : List Nat) : List Nat := ((op.run xs as).getD (xs, as)).2

theorem same_leaves_len : ∀ c a : Cols, c.same a → c.leaves.length = a.leaves.length
  | .leaf _, .leaf _, _ => rfl
  | .nest fs, .nest gs, h => go fs gs h
where go : ∀ fs gs : List Cols, Cols.same.sameL fs gs →
    (Cols.leaves.leavesL fs).length = (Cols.leaves.leavesL gs).length
  | [], [], _ => rfl
  | c :: cs, a :: as, h => by
    rw [Cols.leaves.leavesL, Cols.leaves.leavesL, List.length_append, List.length_append, same_leaves_len c a h.1, go cs as h.2]

/-- **leaf-by-leaf**: on lockstep trees of the same shape, a per-field operation that does not
    fail at these lengths does to every leaf array — at whatever nesting depth — what the std
    call does to one field array -/
theorem apply2_leaves (op : PolyOp) (n k : Nat) (hf : op.fails n k = false) :
    ∀ c a : Cols, c.lock n → a.lock k → c.same a →
      (c.apply2 op a).st.leaves = List.zipWith (leafSt op) c.leaves a.leaves ∧
      (c.apply2 op a).out.leaves = List.zipWith (leafOut op) c.leaves a.leaves
  | .leaf xs, .leaf as, hc, ha, _ => by
    obtain ⟨r, hr⟩ := op.run_some hf xs as (lock_leaf.mp hc) (lock_leaf.mp ha)
    simp [Cols.apply2, Cols.leaves, leafSt, leafOut, hr]
  | .nest fs, .nest gs, hc, ha, hs => go fs gs (lock_nest.mp hc).2 (lock_nest.mp ha).2 hs
where go : ∀ fs gs : List Cols, (∀ c ∈ fs, c.lock n) → (∀ a ∈ gs, a.lock k) → Cols.same.sameL fs gs →
    Cols.leaves.leavesL (Cols.apply2.apply2L op fs gs).1 =
      List.zipWith (leafSt op) (Cols.leaves.leavesL fs) (Cols.leaves.leavesL gs) ∧
    Cols.leaves.leavesL (Cols.apply2.apply2L op fs gs).2.1 =
      List.zipWith (leafOut op) (Cols.leaves.leavesL fs) (Cols.leaves.leavesL gs)
  | [], [], _, _, _ => ⟨rfl, rfl⟩
  | c :: cs, a :: as, hc, ha, hs => by
    have hc1 := hc c (.head _)
    have ha1 := ha a (.head _)
    have ih := apply2_leaves op n k hf c a hc1 ha1 hs.1
    have ih' := go cs as (fun x hx => hc x (.tail _ hx)) (fun x hx => ha x (.tail _ hx)) hs.2
    have hlen := same_leaves_len c a hs.1
    rw [Cols.apply2.apply2L, (apply2_ok op n k hf c a hc1 ha1 hs.1).1]
    simp only [Bool.false_eq_true, ↓reduceIte, Cols.leaves.leavesL]
    rw [ih.1, ih.2, ih'.1, ih'.2, List.zipWith_append hlen, List.zipWith_append hlen]
    exact ⟨rfl, rfl⟩

theorem sameL_leaves : ∀ xs ys : List (List Nat), xs.length = ys.length →
    Cols.same.sameL (xs.map Cols.leaf) (ys.map Cols.leaf)
  | [], [], _ => trivial
  | _ :: xs, _ :: ys, h => ⟨trivial, sameL_leaves xs ys (Nat.succ.inj h)⟩

/-- **C11, every per-field operation**: the nested container and its flattened twin end up
    with the same leaf arrays, hand back the same leaf arrays, and panic alike -/
theorem apply2_flatten (op : PolyOp) (n k : Nat) (c a : Cols) (hc : c.lock n) (ha : a.lock k) (hs : c.same a) :
    ((flatten c).apply2 op (flatten a)).st.leaves = (c.apply2 op a).st.leaves ∧
    ((flatten c).apply2 op (flatten a)).out.leaves = (c.apply2 op a).out.leaves ∧
    ((flatten c).apply2 op (flatten a)).panicked = (c.apply2 op a).panicked := by
  have hcf := lock_flatten c n hc
  have haf := lock_flatten a k ha
  have hsf : (flatten c).same (flatten a) := sameL_leaves _ _ (same_leaves_len c a hs)
  cases hf : op.fails n k with
  | false =>
    have h1 := apply2_leaves op n k hf c a hc ha hs
    have h2 := apply2_leaves op n k hf (flatten c) (flatten a) hcf haf hsf
    rw [leaves_flatten, leaves_flatten] at h2
    exact ⟨h2.1.trans h1.1.symm, h2.2.trans h1.2.symm,
      (apply2_ok op n k hf _ _ hcf haf hsf).1.trans (apply2_ok op n k hf c a hc ha hs).1.symm⟩
  | true =>
    obtain ⟨h1, h2, h3⟩ := apply2_fail op n k hf c a hc ha hs
    obtain ⟨g1, g2, g3⟩ := apply2_fail op n k hf (flatten c) (flatten a) hcf haf hsf
    rw [h1, h2, h3, g1, g2, g3, leaves_flatten, leaves_flatten]
    exact ⟨rfl, rfl, rfl⟩

/-! non-vacuity: nesting in the middle, two levels deep -/
def exN : Cols := .nest [.leaf [1, 2], .nest [.leaf [3, 4], .nest [.leaf [5, 6]]], .leaf [7, 8]]
example : exN.lock 2 := by simp [exN]
example : (flatten exN).leaves = [[1, 2], [3, 4], [5, 6], [7, 8]] := rfl
example : (exN.apply2 (removeOp 0) (exN.const [])).st.leaves = [[2], [4], [6], [8]] := rfl

end Soa.C11
