import Soa.Props.C01
/-!
# C08 — a struct's own destructor runs exactly once per element the container destroys

`dropT` lists the struct-destructor runs of a call (named by the element's first leaf id).
For the destroying operations (`truncate`, `clear`, dropping the vector, the discards of
`retain`) it is, as a multiset, the first ids of exactly the rows `Vec<T>` destroys; for the
operations that move an element in or hand one back it is empty.
-/
namespace Soa.C08

abbrev firstId (r : Elem) : Nat := r.firstId

variable {c e : Cols} {n : Nat}

/-- `truncate` / `clear` / dropping the vector: destructor runs = those of `Vec<T>` -/
theorem truncate (dr : Bool) (k : Nat) (hc : c.lock n) :
    (Model.truncate dr c k).ev.dropT.Perm (Spec.truncate dr c.rows k).ev.dropT := by
  obtain ⟨st, h, _⟩ := truncate_eq dr k n c hc
  rw [h]
  cases dr
  · exact .refl _
  · -- the pop loop destroys the same rows, last first
    exact (List.reverse_perm _).map _

theorem clear (dr : Bool) (hc : c.lock n) :
    (Model.clear dr c).ev.dropT.Perm (Spec.clear dr c.rows).ev.dropT := truncate dr 0 hc

/-- the vector's own destruction runs the destructor once for every element it holds -/
theorem dropVec (hc : c.lock n) : (Model.dropVec true c).ev.dropT.Perm (c.rows.map firstId) :=
  truncate true 0 hc

/-- moving an element in never runs its destructor (also not for the overwritten slot of
    `replace`, which is handed back) -/
theorem push_none : (Model.push c e).ev.dropT = [] := rfl

theorem insert_ok (dr : Bool) (i : Nat) (hp : (Model.insert dr c i e).panicked = false) :
    (Model.insert dr c i e).ev.dropT = [] := by
  unfold Model.insert at hp ⊢
  split at hp
  · cases hp
  · next hg =>
    -- past the guard the events are `if panicked then … else {}`
    rw [if_neg hg]
    dsimp only at hp ⊢
    rw [hp]
    rfl

theorem replace_ok (dr : Bool) (i : Nat) (hp : (Model.replace dr c i e).panicked = false) :
    (Model.replace dr c i e).ev.dropT = [] := by
  rw [Model.replace_ev_of_ok dr i hp]

/-- a rejected `insert` / `replace` destroys the element it was given, as `Vec<T>` does:
    one destructor run -/
theorem insert_panic (i : Nat) (hc : c.lock n) (he : e.lock 1) (hs : c.same e) :
    (Model.insert true c i e).ev.dropT.Perm (Spec.insert true c.rows i e.rows).ev.dropT := by
  rw [Model.insert_eq true i hc he hs]
  unfold Model.callUnit Spec.insert Spec.std
  cases perField (insertOp i) c e n 1 hc he hs with
  | ok s hrun _ hp => simp only [hrun, hp]; exact .refl _
  | fail hrun _ hp => simp only [hrun, hp, ↓reduceIte, dropWhole_one true e he]; exact .refl _

/-- `extend` / `FromIterator` (the push loop): no destructor runs -/
theorem extend_none : ∀ (es : List Cols) (c : Cols), (Model.extend c es).ev.dropT = [] :=
  fun es c => by rw [Lp.extend_shape es c]

/-- **`resize`** (element-wise since /repo 72750cf): growing runs no destructor; shrinking runs it
    for exactly the rows `Vec<T>::resize` destroys — the discarded suffix and the value -/
theorem resize (dr : Bool) (k : Nat) (hc : c.lock n) (he : e.lock 1) :
    (Model.resize dr c k e).ev.dropT.Perm (Spec.resize dr c.rows k e.rows).ev.dropT := by
  unfold Model.resize Spec.resize
  rw [firstLen_lock c n hc, rows_len n c hc]
  by_cases hk : k > n
  · simp only [hk, Nat.not_le.mpr hk, ↓reduceIte]
    exact .refl _
  · simp only [hk, Nat.le_of_not_gt hk, ↓reduceIte]
    rw [dropRows_append, ← dropWhole_one dr e he]
    exact (truncate dr k hc).append_right _

/-- handing an element back never runs its destructor -/
theorem pop_none : (Model.pop c).ev.dropT = [] := by
  rcases pop_cases c with h | ⟨_, h⟩ | ⟨_, h⟩ <;> rw [h] <;> rfl

theorem remove_none (i : Nat) : (Model.remove c i).ev.dropT = [] := by
  unfold Model.remove
  dsimp only
  split <;> rfl

theorem swapRemove_none (i : Nat) : (Model.swapRemove c i).ev.dropT = [] := by
  unfold Model.swapRemove
  dsimp only
  split <;> rfl

/-- `retain_mut` with a callback that **writes**: the destructor runs once for each (written) element the
    callback rejected — the writes themselves run no struct destructor -/
theorem retain_mut (keep : Nat → Bool) (touch : Nat → Nat → Option (Nat × Nat)) (hc : c.lock n) :
    (Model.retain true c keep none touch).ev.dropT.Perm
      ((RetainIdx.filterIdx (fun i => !keep i) 0 (RetainIdx.updFrom (Lp.updOf touch) 0 c.rows)).map firstId) := by
  obtain ⟨st, junk, ds, mk, hM, _, hJ, _⟩ := Lp.retain_eq keep touch n true c hc
  rw [hM]
  simpa [dropRows] using hJ.map firstId

/-- … as `Vec::retain_mut` destroys them -/
theorem retain_mut_spec (keep : Nat → Bool) (touch : Nat → Nat → Option (Nat × Nat)) (rs : List Elem) :
    (Spec.retain true rs keep none touch).ev.dropT =
      (RetainIdx.filterIdx (fun i => !keep i) 0 (RetainIdx.updFrom (Lp.updOf touch) 0 rs)).map firstId := by
  obtain ⟨ds, h⟩ := Spec.retain_eq true keep touch rs
  simp [h, dropRows]

/-- `retain`: the destructor runs once for each element the callback rejected -/
theorem retain (keep : Nat → Bool) (hc : c.lock n) :
    (Model.retain true c keep none (fun _ _ => none)).ev.dropT.Perm
      ((RetainIdx.filterIdx (fun i => !keep i) 0 c.rows).map firstId) := by
  simpa [Spec.updOf_none, RetainIdx.updFrom_id] using retain_mut keep (fun _ _ => none) hc

/-- the discards of `retain` are destroyed as `Vec::retain` destroys them -/
theorem retain_spec (keep : Nat → Bool) (rs : List Elem) :
    (Spec.retain true rs keep none (fun _ _ => none)).ev.dropT =
      (RetainIdx.filterIdx (fun i => !keep i) 0 rs).map firstId := by
  simpa [Spec.updOf_none, RetainIdx.updFrom_id] using retain_mut_spec keep (fun _ _ => none) rs

/-! non-vacuity: a Drop-implementing 2-field struct, clearing 2 elements runs 2 destructors -/
example : (Model.clear true (.nest [.leaf [8, 16], .leaf [9, 17]])).ev.dropT = [16, 8] := by decide

end Soa.C08
