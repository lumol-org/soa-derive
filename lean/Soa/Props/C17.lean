import Soa.Props.C09
import Soa.Lemmas.Refine
import Soa.Model.Vec
/-!
# C17 — debug and release builds behave identically

Two mechanisms could make the profiles differ: `debug_assert*` lines, and `+ 1` evaluated
with overflow checks on or off.
* The generated `len()` / `is_empty()` assertions are vacuous on a lockstep container
  (`len_independent`, `isEmpty_independent`); `capacity()` no longer asserts (fix 368d6b1);
  no other generated method mentions a debug assertion, and the model of the vector API
  (`Soa.Model`, C01–C03) has no profile parameter at all — tied to both builds by the
  correspondence.
* Every `+ 1` of the extracted index layer and of the extracted `RangeBounds` conversions
  is evaluated only below `usize::MAX`: the accessors return the same result in both
  profiles (`index_layer_independent`, `bounds_independent`, over the terms extracted from
  `/repo` on this run).
-/
namespace Soa.C17

theorem lock_all (c : Cols) (n : Nat) (h : c.lock n) (q : Nat → Bool) (hq : q n = true) :
    c.leaves.all (fun l => q l.length) = true :=
  List.all_eq_true.mpr fun l hl => (leaves_lock n c h l hl).symm ▸ hq

theorem len_independent (c : Cols) (n : Nat) (h : c.lock n) :
    Model.len .debug c = some n ∧ Model.len .release c = some n := by
  simp only [Model.len, firstLen_lock c n h, lock_all c n h (· == n) (beq_self_eq_true n), if_true, and_self]

theorem isEmpty_independent (c : Cols) (n : Nat) (h : c.lock n) :
    Model.isEmpty .debug c = some (n == 0) ∧ Model.isEmpty .release c = some (n == 0) := by
  simp only [Model.isEmpty, firstLen_lock c n h, lock_all c n h (fun k => (k == 0) == (n == 0)) (beq_self_eq_true _),
    if_true, and_self]

/-- checked indexing (extracted index layer): same outcome in both profiles -/
theorem index_layer_independent (n : Nat) (sh : IdxIR.Shape) (hw : sh.wf) (k : IdxIR.Kind) (iv : IdxIR.IV)
    (hiv : C04.IV.ok iv) :
    IdxIR.run .debug n sh k iv (C04.getOf k) = IdxIR.run .release n sh k iv (C04.getOf k) ∧
    IdxIR.run .debug n sh k iv (C04.indexOf k) = IdxIR.run .release n sh k iv (C04.indexOf k) :=
  C04.profile_independent n sh hw k iv hiv

/-- trait slicing with any range bounds (extracted conversions): same outcome in both profiles -/
theorem bounds_independent (c : Bounds.Conv) (hc : c ∈ Extracted.convs) (n : Nat) (hn : n ≤ IdxIR.MAX)
    (sh : IdxIR.Shape) (hw : sh.wf) (sb eb : Bounds.Bound) (heb : ∀ v, eb = .exc v → v ≤ IdxIR.MAX) :
    c.run .debug n sh sb eb = c.run .release n sh sb eb := by
  rw [C09.bounds_agree c hc .debug n hn sh hw sb eb heb, C09.bounds_agree c hc .release n hn sh hw sb eb heb]

/-- the full-strength statement needs lockstep: on a desynchronised container `len()` differs -/
example : Model.len .debug (.nest [.leaf [1, 2], .leaf [3]]) = none ∧
    Model.len .release (.nest [.leaf [1, 2], .leaf [3]]) = some 2 := ⟨rfl, rfl⟩

end Soa.C17
