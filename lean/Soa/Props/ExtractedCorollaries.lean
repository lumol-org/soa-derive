import Soa.Props.C08
import Soa.Props.C16
import Soa.Lemmas.GenTie
/-!
# C03 / C08 / C16 for the vector API as extracted from /repo

The driver's `Gen.*` functions (extracted skeletons and loop trees) equal the hand-written
model on lockstep containers (`Soa/Lemmas/GenTie.lean`), events included; so the ownership,
destructor and fault theorems hold for them verbatim.
-/
namespace Soa.Extr
open Soa.Exec

variable {c e : Cols} {n : Nat}

/-! ## C03: every field value is owned exactly once -/

theorem push_conserves (dr : Bool) (hc : c.lock n) (he : e.lock 1) (hs : c.same e) : C03.Conserves c e (Gen.push dr c e) := by
  rw [Gen.push_eq]; exact C03.push hc he hs
theorem insert_conserves (dr : Bool) (i : Nat) (hc : c.lock n) (he : e.lock 1) (hs : c.same e) :
    C03.Conserves c e (Gen.insert dr c i e) := by
  rw [Gen.insert_eq dr i hc he hs]; exact C03.insert dr i hc he hs
theorem replace_conserves (dr : Bool) (i : Nat) (hc : c.lock n) (he : e.lock 1) (hs : c.same e) :
    C03.Conserves c e (Gen.replace dr c i e) := by
  rw [Gen.replace_eq dr i hc he hs]; exact C03.replace dr i hc he hs
theorem pop_conserves (dr : Bool) (c : Cols) : C03.Conserves c (c.const []) (Gen.pop dr c) := by
  rw [Gen.pop_eq]; exact C03.pop c
theorem remove_conserves (dr : Bool) (c : Cols) (i : Nat) : C03.Conserves c (c.const []) (Gen.remove dr c i) := by
  rw [Gen.remove_eq]; exact C03.remove c i
theorem swapRemove_conserves (dr : Bool) (c : Cols) (i : Nat) : C03.Conserves c (c.const []) (Gen.swapRemove dr c i) := by
  rw [Gen.swapRemove_eq]; exact C03.swapRemove c i
theorem splitOff_conserves (dr : Bool) (c : Cols) (i : Nat) : C03.Conserves c (c.const []) (Gen.splitOff dr c i) := by
  rw [Gen.splitOff_eq]; exact C03.splitOff c i
theorem truncate_conserves (dr : Bool) (k : Nat) (hc : c.lock n) : C03.Conserves c (c.const []) (Gen.truncate dr c k) := by
  rw [Gen.truncate_eq dr k hc]; exact C03.truncate dr c k
theorem clear_conserves (dr : Bool) (hc : c.lock n) : C03.Conserves c (c.const []) (Gen.clear dr c) := by
  rw [Gen.clear_eq dr hc]; exact C03.clear dr c
theorem dropVec_conserves (dr : Bool) (hc : c.lock n) : C03.Conserves c (c.const []) (Gen.dropVec dr c) := by
  rw [Gen.dropVec_eq dr hc]; exact C03.dropVec dr c

/-- `retain` / `retain_mut` as extracted, with any answers, any panicking call and any writes of the callback -/
theorem retain_conserves (dr mut_ : Bool) (keep : Nat → Bool) (boom : Option Nat) (touch : Nat → Nat → Option (Nat × Nat))
    (hc : c.lock n) :
    ((Gen.retain dr mut_ c keep boom touch).st.flat ++ C03.held (Gen.retain dr mut_ c keep boom touch) ++
      (Gen.retain dr mut_ c keep boom touch).ev.drops).Perm (c.flat ++ (Gen.retain dr mut_ c keep boom touch).made) := by
  rw [Gen.retain_eq_w dr mut_ keep boom touch hc]; exact C03.retain dr c keep boom touch

/-! ## C08: the struct's own destructor -/

theorem truncate_dropT (dr : Bool) (k : Nat) (hc : c.lock n) :
    (Gen.truncate dr c k).ev.dropT.Perm (Spec.truncate dr c.rows k).ev.dropT := by
  rw [Gen.truncate_eq dr k hc]; exact C08.truncate dr k hc
theorem clear_dropT (dr : Bool) (hc : c.lock n) : (Gen.clear dr c).ev.dropT.Perm (Spec.clear dr c.rows).ev.dropT := by
  rw [Gen.clear_eq dr hc]; exact C08.clear dr hc
theorem dropVec_dropT (hc : c.lock n) : (Gen.dropVec true c).ev.dropT.Perm (c.rows.map C08.firstId) := by
  rw [Gen.dropVec_eq true hc]; exact C08.dropVec hc
theorem retain_dropT (mut_ : Bool) (keep : Nat → Bool) (hc : c.lock n) :
    (Gen.retain true mut_ c keep none (fun _ _ => none)).ev.dropT.Perm
      ((RetainIdx.filterIdx (fun i => !keep i) 0 c.rows).map C08.firstId) := by
  rw [Gen.retain_eq true mut_ keep none hc]; exact C08.retain keep hc
/-- … and with a callback that writes -/
theorem retain_mut_dropT (mut_ : Bool) (keep : Nat → Bool) (touch : Nat → Nat → Option (Nat × Nat)) (hc : c.lock n) :
    (Gen.retain true mut_ c keep none touch).ev.dropT.Perm (Spec.retain true c.rows keep none touch).ev.dropT := by
  rw [Gen.retain_eq_w true mut_ keep none touch hc, C08.retain_mut_spec]; exact C08.retain_mut keep touch hc

theorem push_dropT (dr : Bool) : (Gen.push dr c e).ev.dropT = [] := by rw [Gen.push_eq]; rfl
theorem pop_dropT (dr : Bool) : (Gen.pop dr c).ev.dropT = [] := by rw [Gen.pop_eq]; exact C08.pop_none
theorem remove_dropT (dr : Bool) (i : Nat) : (Gen.remove dr c i).ev.dropT = [] := by rw [Gen.remove_eq]; exact C08.remove_none i
theorem swapRemove_dropT (dr : Bool) (i : Nat) : (Gen.swapRemove dr c i).ev.dropT = [] := by
  rw [Gen.swapRemove_eq]; exact C08.swapRemove_none i

/-! ## C16: the callback of `retain` / `retain_mut` panics at any call -/

theorem retain_fault (dr mut_ : Bool) (keep : Nat → Bool) (k : Nat) (hc : c.lock n)
    (hp : (Gen.retain dr mut_ c keep (some k) (fun _ _ => none)).panicked = true) :
    (Gen.retain dr mut_ c keep (some k) (fun _ _ => none)).st.lock n ∧
    c.same (Gen.retain dr mut_ c keep (some k) (fun _ _ => none)).st ∧
    (Gen.retain dr mut_ c keep (some k) (fun _ _ => none)).st.rows.Perm c.rows ∧
    (Gen.retain dr mut_ c keep (some k) (fun _ _ => none)).ev.drops = [] := by
  rw [Gen.retain_eq dr mut_ keep (some k) hc] at hp ⊢
  exact C16.retain_fault dr keep k hc hp

/-- … and when the callback also writes -/
theorem retain_fault_w (dr mut_ : Bool) (keep : Nat → Bool) (k : Nat) (touch : Nat → Nat → Option (Nat × Nat)) (hc : c.lock n)
    (hp : (Gen.retain dr mut_ c keep (some k) touch).panicked = true) :
    (Gen.retain dr mut_ c keep (some k) touch).st.lock n ∧ c.same (Gen.retain dr mut_ c keep (some k) touch).st ∧
    ((Gen.retain dr mut_ c keep (some k) touch).st.flat ++ (Gen.retain dr mut_ c keep (some k) touch).ev.drops).Perm
      (c.flat ++ (Gen.retain dr mut_ c keep (some k) touch).made) := by
  rw [Gen.retain_eq_w dr mut_ keep (some k) touch hc] at hp ⊢
  exact C16.retain_fault_w dr keep k touch hc hp

end Soa.Extr
