import Soa.Props.C01
/-!
# Histories over several vectors (C01 / C02 for the two-container operations)

`C01.history` follows one vector.  `append`, `split_off`, `to_vec` and `extend_from_slice`
involve two: this file follows a whole *world* of vectors of one struct type (registers, as
in the correspondence scenarios) through any finite sequence of operations — single-vector
operations with arbitrary arguments on any register, and the four two-container operations
between any two different registers.  For every such history, started from any world of
lockstep containers of one shape: every register stays in lockstep with that shape (C02),
and the rows of every register are exactly the rows of the corresponding `Vec<T>` in the
world of `Vec<T>`s driven by the same history (C01).
-/
namespace Soa.World
open C01

inductive WOp
  | on (r : Nat) (op : Op)                   -- a single-vector operation on register `r`
  | append (r q : Nat)                       -- `regs[r].append(&mut regs[q])`
  | splitOff (r i q : Nat)                   -- `regs[q] = regs[r].split_off(i)`
  | toVec (r q : Nat)                        -- `regs[q] = regs[r].as_slice().to_vec()`
  | extendFromSlice (r q : Nat)              -- `regs[r].extend_from_slice(regs[q].as_slice())`

/-- the borrow checker only admits two *different* vectors; registers exist -/
def WOp.wf (c0 : Cols) (nreg : Nat) : WOp → Prop
  | .on r op => r < nreg ∧ op.wf c0
  | .append r q | .toVec r q | .extendFromSlice r q => r < nreg ∧ q < nreg ∧ r ≠ q
  | .splitOff r _ q => r < nreg ∧ q < nreg ∧ r ≠ q

def wstep (dr : Bool) (c0 : Cols) (regs : List Cols) : WOp → List Cols
  | .on r op => regs.set r (mstep dr (regs.getD r c0) op).st
  | .append r q =>
    let o := Model.append (regs.getD r c0) (regs.getD q c0)
    (regs.set r o.st).set q (o.other.getD (regs.getD q c0))
  | .splitOff r i q =>
    let o := Model.splitOff (regs.getD r c0) i
    if o.panicked then regs else (regs.set r o.st).set q (o.ret.getD (regs.getD q c0))
  | .toVec r q => regs.set q ((Model.toVec (regs.getD r c0)).ret.getD c0)
  | .extendFromSlice r q => regs.set r (Model.extendFromSlice (regs.getD r c0) (regs.getD q c0)).st

def sstepW (dr : Bool) (rows : List (List Elem)) : WOp → List (List Elem)
  | .on r op => rows.set r (sstep dr (rows.getD r []) op).st
  | .append r q =>
    let o := Spec.append (rows.getD r []) (rows.getD q [])
    (rows.set r o.st).set q (o.other.getD (rows.getD q []))
  | .splitOff r i q =>
    let o := Spec.splitOff (rows.getD r []) i
    if o.panicked then rows else (rows.set r o.st).set q (o.ret.getD (rows.getD q []))
  | .toVec r q => rows.set q ((Spec.toVec (rows.getD r [])).ret.getD [])
  | .extendFromSlice r q => rows.set r (Spec.extendFromSlice (rows.getD r []) (rows.getD q [])).st

/-- every register is a lockstep container of the shape `c0` -/
def Inv (c0 : Cols) (regs : List Cols) : Prop := ∀ c ∈ regs, (∃ n, c.lock n) ∧ c0.same c

theorem inv_get {c0 : Cols} {regs : List Cols} (h : Inv c0 regs) (r : Nat) (hr : r < regs.length) :
    (∃ n, (regs.getD r c0).lock n) ∧ c0.same (regs.getD r c0) := by
  have : regs.getD r c0 = regs[r] := by simp [List.getD_eq_getElem?_getD, hr]
  rw [this]
  exact h _ (List.getElem_mem hr)

theorem inv_set {c0 : Cols} {regs : List Cols} (h : Inv c0 regs) (r : Nat) (x : Cols)
    (hx : (∃ n, x.lock n) ∧ c0.same x) : Inv c0 (regs.set r x) :=
  fun c hc => (List.mem_or_eq_of_mem_set hc).elim (h c) (· ▸ hx)

theorem rows_getD (regs : List Cols) (c0 : Cols) (r : Nat) (hr : r < regs.length) :
    (regs.map Cols.rows).getD r [] = (regs.getD r c0).rows := by
  simp [List.getD_eq_getElem?_getD, hr]

theorem append_other {c d : Cols} {n k : Nat} (hc : c.lock n) (hd : d.lock k) (hs : c.same d) :
    ∃ o, (Model.append c d).other = some o ∧ o.lock 0 ∧ c.same o ∧ o.rows = [] := by
  obtain ⟨_, _, hout, _, hlo, _, hso⟩ := apply2_total (op := appendOp) rfl c d n k hc hd hs rfl
  exact ⟨_, rfl, hlo, hso, hout⟩

theorem splitOff_ret {c : Cols} {n : Nat} (i : Nat) (hc : c.lock n)
    (hp : (Model.splitOff c i).panicked = false) :
    ∃ o, (Model.splitOff c i).ret = some o ∧ (∃ m, o.lock m) ∧ c.same o ∧
      some o.rows = (Spec.splitOff c.rows i).ret := by
  have href := C01.splitOff i hc
  unfold Model.splitOff Model.noArgs at hp href ⊢
  cases perField (splitOffOp i) c _ n 0 hc (lock_noArgs c n hc) (same_const [] c) with
  | ok s hrun _ hpp _ hout _ hlo _ hso =>
    simp only [hpp, Bool.false_eq_true, ↓reduceIte] at hp href ⊢
    refine ⟨_, rfl, ⟨_, hlo⟩, hso, ?_⟩
    simpa using href.ret
  | fail _ _ hpp _ _ =>
    simp [hpp] at hp

/-- **one step of a world**: the invariant is kept and the rows follow the world of `Vec<T>`s -/
theorem wstep_refines (dr : Bool) (c0 : Cols) (regs : List Cols) (op : WOp) (hi : Inv c0 regs)
    (hw : op.wf c0 regs.length) :
    Inv c0 (wstep dr c0 regs op) ∧ (wstep dr c0 regs op).map Cols.rows = sstepW dr (regs.map Cols.rows) op ∧
      (wstep dr c0 regs op).length = regs.length := by
  cases op with
  | on r o =>
    obtain ⟨hr, hwf⟩ := hw
    obtain ⟨⟨n, hn⟩, hs⟩ := inv_get hi r hr
    have h := step_refines dr o hn (wf_same hs o hwf)
    refine ⟨inv_set hi r _ ⟨h.lock, same_trans _ _ _ hs h.same⟩, ?_, List.length_set⟩
    simp only [wstep, sstepW, List.map_set, rows_getD regs c0 r hr, h.st]
  | append r q =>
    obtain ⟨hr, hq, _⟩ := hw
    obtain ⟨⟨n, hn⟩, hs⟩ := inv_get hi r hr
    obtain ⟨⟨k, hk⟩, hsq⟩ := inv_get hi q hq
    have hrq : (regs.getD r c0).same (regs.getD q c0) := same_trans _ _ _ (same_symm _ _ hs) hsq
    have h := C01.append hn hk hrq
    obtain ⟨o, ho, hol, hos, hor⟩ := append_other hn hk hrq
    refine ⟨inv_set (inv_set hi r _ ⟨h.1.lock, same_trans _ _ _ hs h.1.same⟩) q _ ?_, ?_, List.length_set.trans List.length_set⟩
    · rw [ho]
      exact ⟨⟨0, hol⟩, same_trans _ _ _ hs hos⟩
    · simp only [wstep, sstepW, List.map_set, rows_getD regs c0 r hr, rows_getD regs c0 q hq, h.1.st, ho,
        Option.getD_some, hor]
      simp [Spec.append]
  | splitOff r i q =>
    obtain ⟨hr, _⟩ := hw
    obtain ⟨⟨n, hn⟩, hs⟩ := inv_get hi r hr
    have h := C01.splitOff i hn
    simp only [wstep, sstepW, rows_getD regs c0 r hr, ← h.panicked]
    by_cases hp : (Model.splitOff (regs.getD r c0) i).panicked = true
    · simp only [hp, ↓reduceIte]
      exact ⟨hi, trivial, trivial⟩
    · have hp' : (Model.splitOff (regs.getD r c0) i).panicked = false := by simpa using hp
      obtain ⟨o, ho, hol, hos, hor⟩ := splitOff_ret i hn hp'
      simp only [hp', Bool.false_eq_true, ↓reduceIte, ho, Option.getD_some]
      refine ⟨inv_set (inv_set hi r _ ⟨h.lock, same_trans _ _ _ hs h.same⟩) q _ ⟨hol, same_trans _ _ _ hs hos⟩, ?_,
        List.length_set.trans List.length_set⟩
      simp only [List.map_set, h.st, ← hor, Option.getD_some]
  | toVec r q =>
    obtain ⟨hr, _⟩ := hw
    obtain ⟨hl, hs⟩ := inv_get hi r hr
    refine ⟨inv_set hi q _ ⟨hl, hs⟩, ?_, List.length_set⟩
    have hg := rows_getD regs c0 r hr
    simp only [wstep, sstepW, Model.toVec, Spec.toVec, List.map_set, Option.getD_some, hg]
  | extendFromSlice r q =>
    obtain ⟨hr, hq, _⟩ := hw
    obtain ⟨⟨n, hn⟩, hs⟩ := inv_get hi r hr
    obtain ⟨⟨k, hk⟩, hsq⟩ := inv_get hi q hq
    have hrq : (regs.getD r c0).same (regs.getD q c0) := same_trans _ _ _ (same_symm _ _ hs) hsq
    have h := C01.extendFromSlice hn hk hrq
    refine ⟨inv_set hi r _ ⟨h.lock, same_trans _ _ _ hs h.same⟩, ?_, List.length_set⟩
    simp only [wstep, sstepW, List.map_set, rows_getD regs c0 r hr, rows_getD regs c0 q hq, h.st]

def wrun (dr : Bool) (c0 : Cols) : List Cols → List WOp → List Cols
  | regs, [] => regs
  | regs, op :: ops => wrun dr c0 (wstep dr c0 regs op) ops

def srunW (dr : Bool) : List (List Elem) → List WOp → List (List Elem)
  | rows, [] => rows
  | rows, op :: ops => srunW dr (sstepW dr rows op) ops

/-- **histories over a world of vectors**: after any finite sequence of operations — on one
    vector or between two — every register is a lockstep container of the common shape, and
    its rows are those of the corresponding `Vec<T>` -/
theorem history (dr : Bool) (c0 : Cols) : ∀ (ops : List WOp) (regs : List Cols), Inv c0 regs →
    (∀ op ∈ ops, op.wf c0 regs.length) →
    Inv c0 (wrun dr c0 regs ops) ∧ (wrun dr c0 regs ops).map Cols.rows = srunW dr (regs.map Cols.rows) ops
  | [], regs, hi, _ => ⟨hi, rfl⟩
  | op :: ops, regs, hi, hw => by
    obtain ⟨h1, h2, h3⟩ := wstep_refines dr c0 regs op hi (hw op (.head _))
    have ih := history dr c0 ops (wstep dr c0 regs op) h1 fun o ho => h3 ▸ hw o (.tail _ ho)
    rw [h2] at ih
    exact ih

/-! non-vacuity: three registers of a nested two-field shape -/
example : Inv C01.exC [C01.exC, C01.exC, C01.exC] := by
  intro c hc
  simp only [List.mem_cons, List.not_mem_nil, or_false, or_self] at hc
  subst hc
  exact ⟨⟨2, C01.exC_lock⟩, same_refl _⟩

end Soa.World
