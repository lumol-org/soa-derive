import Soa.Model.Zip
import Soa.Extracted.ZipMacro
/-!
# C20 — `soa_zip!` yields the selected fields in lockstep

The model (`Soa.Zip`) has one function per rule group of `soa_zip_impl!`; the rule texts it
was written from are compared with the rules **extracted from /repo/src/lib.rs** on every
run (`rules_are_modelled`).  For every non-empty selection of fields, in any order and with
any `mut` mask, any number of externals and any lengths:

* `total`: a rule applies at every step (the only token list without a rule is the empty
  selection — `empty_selection_rejected`);
* `yields`: the tuples yielded are, for positions `0, 1, 2, … < m` where `m` is the length
  of the shortest input, the flat tuple of (references to) position `i` of the selected
  fields **in the order written**, followed by item `i` of every external — flat: every
  component is an atom, the nesting produced by the `.zip()` chain is undone by the
  generated closure, for any number of inputs;
* `mut_markers`: a component is a mutable reference exactly when its field was written
  with `mut`;
* `writes_land`: writing through every `mut` component touches exactly the positions
  `(field, i)`, `i < m`, of the `mut` fields, each once per occurrence.

Trusted: rustc's macro hygiene for the repeated binder `a` of `@flatten` (modelled as one
binder per expansion step) and std's `Zip` / `slice::Iter(Mut)`.
-/
namespace Soa.C20
open Soa.Zip

/-- **translator tie**: the macro rules in /repo today are the ones the model was written from -/
theorem rules_are_modelled : Extracted.zipRules = rulesText ∧ Extracted.zipEntry = entryText := ⟨rfl, rfl⟩

def toSrc (s : Sel) : Src := .field s.field s.mu

theorem munch_eq : ∀ (sels : List Sel) (out : List Src), sels ≠ [] → munch sels out = some (out ++ sels.map toSrc)
  | [s], out, _ => rfl
  | s :: s' :: t, out, _ => (munch_eq (s' :: t) _ (List.cons_ne_nil _ _)).trans (by rw [List.append_assoc]; rfl)

theorem empty_selection_rejected (out : List Src) : munch [] out = none := rfl

/-- `v` zipped with further items `ys`, nested the way a chain of `.zip()` nests it -/
def nest {α : Type} (v : Val α) (ys : List α) : Val α := ys.foldl (fun acc y => .pair acc (.atom y)) v

theorem zipWith_range {α β γ : Type} (f : β → α → γ) (g : Nat → β) (m : Nat) (t : List α) (d : α) :
    List.zipWith f ((List.range m).map g) t = (List.range (min m t.length)).map (fun i => f (g i) (t.getD i d)) := by
  apply List.ext_getElem
  · simp
  · intro i h1 _
    have ht : i < t.length := by
      rw [List.length_zipWith] at h1
      exact (Nat.lt_min.mp h1).2
    simp [List.getD_eq_getElem?_getD, List.getElem?_eq_getElem ht]

/-- length of the shortest input -/
def minLen {α : Type} (m : Nat) (ts : List (List α)) : Nat := ts.foldl (fun m l => min m l.length) m

theorem zipChain_rows {α : Type} (d : α) : ∀ (ts : List (List α)) (F : Nat → Val α) (m : Nat),
    zipChain ((List.range m).map F) ts =
      (List.range (minLen m ts)).map (fun i => nest (F i) (ts.map (·.getD i d)))
  | [], F, m => rfl
  | t :: ts, F, m => by
    rw [zipChain, zipWith_range _ _ m t d, zipChain_rows d ts]
    rfl

theorem lt_minLen {α : Type} (i : Nat) : ∀ (ts : List (List α)) (m : Nat),
    i < minLen m ts ↔ i < m ∧ ∀ t ∈ ts, i < t.length
  | [], m => by simp [minLen]
  | t :: ts, m => (lt_minLen i ts (min m t.length)).trans (by simp [Nat.lt_min, and_assoc])

theorem lookup_append {α : Type} (e1 e2 : List (Nat × Val α)) (j : Nat) :
    lookup (e1 ++ e2) j = match lookup e1 j with | some v => some v | none => lookup e2 j := by
  induction e1 with
  | nil => rfl
  | cons p e ih =>
    obtain ⟨i, v⟩ := p
    simp only [List.cons_append, lookup]
    split
    · rfl
    · exact ih

theorem evalTuple_snoc {α : Type} (env : List (Nat × Val α)) (k : Nat) (w : Val α) (hk : lookup env k = none) :
    ∀ (tup : List Nat) (vs : List (Val α)), evalTuple env tup = some vs →
      evalTuple (env ++ [(k, w)]) (tup ++ [k]) = some (vs ++ [w])
  | [], vs, h => by
    cases h
    simp [evalTuple, lookup_append, hk, lookup]
  | j :: tup, vs, h => by
    rw [evalTuple] at h
    split at h
    · next v ws h1 h2 =>
      cases h
      simp [evalTuple, lookup_append, h1, evalTuple_snoc env k w hk tup ws h2]
    · cases h

/-- the closure `|p| (tup…)` turns `v` into the flat tuple `row`; all its binders are numbered below `k` -/
def Flat {α : Type} (p : Pat) (tup : List Nat) (k : Nat) (v : Val α) (row : List (Val α)) : Prop :=
  ∃ env, p.bind v = some env ∧ (∀ j, k ≤ j → lookup env j = none) ∧ evalTuple env tup = some row

theorem flat_base {α : Type} (v : Val α) : Flat (.var 0) [0] 1 v [v] :=
  ⟨[(0, v)], rfl, fun _ hj => if_neg (Nat.ne_of_lt hj), rfl⟩

/-- one `@flatten` step: the next binder takes the component zipped on last -/
theorem flat_step {α : Type} {p : Pat} {tup : List Nat} {k : Nat} {v : Val α} {row : List (Val α)}
    (h : Flat p tup k v row) (w : Val α) : Flat (.pair p (.var k)) (tup ++ [k]) (k + 1) (.pair v w) (row ++ [w]) := by
  obtain ⟨env, hb, hk, ht⟩ := h
  refine ⟨env ++ [(k, w)], by simp [Pat.bind, hb], fun j hj => ?_, evalTuple_snoc env k w (hk k (Nat.le_refl k)) tup row ht⟩
  rw [lookup_append, hk j (Nat.le_of_succ_le hj)]
  exact if_neg (Nat.ne_of_lt hj)

/-- **`@flatten`**: the closure generated for `ys.length` further inputs undoes the nesting of the chain -/
theorem flatten_apply {α : Type} : ∀ (ys : List α) (p : Pat) (tup : List Nat) (k : Nat) (v : Val α) (row : List (Val α)),
    Flat p tup k v row →
    applyClosure (flattenRule p tup k ys.length).1 (flattenRule p tup k ys.length).2 (nest v ys) = some (row ++ ys.map .atom)
  | [], p, tup, k, v, row, ⟨env, hb, _, ht⟩ => by simp [flattenRule, nest, applyClosure, hb, ht]
  | y :: ys, p, tup, k, v, row, h => by
    simpa [flattenRule, nest] using flatten_apply ys _ _ _ _ _ (flat_step h (.atom y))

theorem mapAll_map {α β γ : Type} (f : β → Option γ) (g : α → β) (r : α → γ) : ∀ (xs : List α),
    (∀ x ∈ xs, f (g x) = some (r x)) → mapAll f (xs.map g) = some (xs.map r)
  | [], _ => rfl
  | x :: xs, h => by
    have ⟨hx, hxs⟩ := List.forall_mem_cons.mp h
    simp only [List.map_cons, mapAll]
    rw [hx, mapAll_map f g r xs hxs]

/-- **`@last` + `@flatten`**: the zip chain followed by the generated closure yields, for `i` below
    the length of the shortest input, the flat tuple of the `i`-th items in input order -/
theorem last_rows {α : Type} (d : α) (l0 : List α) (ts : List (List α)) :
    last (l0 :: ts) = some ((List.range (minLen l0.length ts)).map (fun i => (l0 :: ts).map (fun l => .atom (l.getD i d)))) := by
  have h0 : l0.map Val.atom = (List.range l0.length).map (fun i => .atom (l0.getD i d)) := by
    apply List.ext_getElem
    · simp
    · intro i h1 _
      rw [List.length_map] at h1
      simp [List.getD_eq_getElem?_getD, List.getElem?_eq_getElem h1]
  rw [last, h0, zipChain_rows d ts _ l0.length]
  apply mapAll_map
  intro i _
  simpa [Function.comp_def] using flatten_apply (ts.map (·.getD i d)) _ _ _ _ _ (flat_base (.atom (l0.getD i d)))

/-- every input of the zip: the selected fields in the order written, then the externals -/
def inputs (sels : List Sel) (nExt : Nat) : List Src := sels.map toSrc ++ (List.range nExt).map Src.ext

/-- length of the shortest input -/
def shortest (sels : List Sel) (nExt : Nat) (flen : Nat → Nat) (ext : Nat → List Nat) : Nat :=
  match (inputs sels nExt).map (Src.items flen ext) with
  | [] => 0
  | l0 :: ts => minLen l0.length ts

/-- the tuple the property asks for at position `i` -/
def expected (sels : List Sel) (nExt : Nat) (ext : Nat → List Nat) (i : Nat) : List (Val Item) :=
  sels.map (fun s => .atom (.ref s.field i s.mu)) ++ (List.range nExt).map (fun k => .atom (.ext k ((ext k).getD i 0)))

/-- item `i` of an input that has one -/
def itemAt (ext : Nat → List Nat) (i : Nat) : Src → Item
  | .field f m => .ref f i m
  | .ext k => .ext k ((ext k).getD i 0)

theorem items_getD (flen : Nat → Nat) (ext : Nat → List Nat) (i : Nat) (d : Item) (s : Src)
    (h : i < (s.items flen ext).length) : (s.items flen ext).getD i d = itemAt ext i s := by
  cases s <;> simp [Src.items] at h <;> simp [Src.items, itemAt, List.getD_eq_getElem?_getD, h]

theorem expected_eq (sels : List Sel) (nExt : Nat) (ext : Nat → List Nat) (i : Nat) :
    expected sels nExt ext i = (inputs sels nExt).map (fun s => .atom (itemAt ext i s)) := by
  simp only [expected, inputs, List.map_append, List.map_map]
  rfl

/-- **lockstep yield**: positions `0 … m-1` (`m` = shortest input), fields in the order
    written, then the externals, flat -/
theorem yields (sels : List Sel) (h : sels ≠ []) (nExt : Nat) (flen : Nat → Nat) (ext : Nat → List Nat) :
    run sels nExt flen ext =
      some ((List.range (shortest sels nExt flen ext)).map (expected sels nExt ext)) := by
  have hrun : run sels nExt flen ext = last ((inputs sels nExt).map (Src.items flen ext)) := by
    rw [run, munch_eq sels [] h]
    rfl
  obtain ⟨l0, ts, hls⟩ := List.exists_cons_of_ne_nil (l := (inputs sels nExt).map (Src.items flen ext))
    (by simp [inputs, h])
  rw [hrun, shortest, hls, last_rows (Item.ext 0 0)]
  congr 1
  apply List.map_congr_left
  intro i hi
  rw [← hls, expected_eq, List.map_map]
  apply List.map_congr_left
  intro src hsrc
  -- `i` is below the length of the shortest input, so every input has an item `i`
  have hlt : ∀ l ∈ l0 :: ts, i < l.length := List.forall_mem_cons.mpr ((lt_minLen i ts l0.length).mp (List.mem_range.mp hi))
  exact congrArg Val.atom (items_getD flen ext i _ src (hlt _ (hls ▸ List.mem_map_of_mem hsrc)))

/-- **totality**: every non-empty selection, any `mut` mask, any number of externals expands -/
theorem total (sels : List Sel) (h : sels ≠ []) (nExt : Nat) (flen : Nat → Nat) (ext : Nat → List Nat) :
    (run sels nExt flen ext).isSome = true := by
  rw [yields sels h]
  rfl

/-- a component is a mutable reference exactly when its field was written with `mut`, and
    refers to the field written at that place of the selection -/
theorem mut_markers (sels : List Sel) (nExt : Nat) (ext : Nat → List Nat) (i j : Nat) (hj : j < sels.length) :
    (expected sels nExt ext i)[j]? = some (.atom (.ref sels[j].field i sels[j].mu)) := by
  simp [expected, List.getElem?_append_left, hj]

/-- the externals follow the fields, in the order written -/
theorem externals_follow (sels : List Sel) (nExt : Nat) (ext : Nat → List Nat) (i k : Nat) (hk : k < nExt) :
    (expected sels nExt ext i)[sels.length + k]? = some (.atom (.ext k ((ext k).getD i 0))) := by
  simp [expected, hk]

theorem writes_map (f : Nat → List (Val Item)) : ∀ (is : List Nat),
    writes (is.map f) = is.flatMap (fun i => (f i).filterMap mutTarget)
  | [] => rfl
  | i :: is => by simp [writes, writes_map f is]

theorem mut_filter (i : Nat) : ∀ (t : List Sel),
    t.filterMap (fun x => mutTarget (.atom (.ref x.field i x.mu))) = (t.filter (·.mu)).map (fun s => (s.field, i))
  | [] => rfl
  | s :: t => by
    have ih := mut_filter i t
    simp only [List.filterMap_cons, List.filter_cons]
    rw [ih]
    cases hm : s.mu <;> simp [mutTarget]

/-- **writes land in the corresponding element**: writing through every `mut` component of
    every yielded tuple touches exactly position `i` of each `mut` field, for `i < m` -/
theorem writes_land (sels : List Sel) (h : sels ≠ []) (nExt : Nat) (flen : Nat → Nat) (ext : Nat → List Nat) :
    (run sels nExt flen ext).map writes =
      some ((List.range (shortest sels nExt flen ext)).flatMap
        (fun i => (sels.filter (·.mu)).map (fun s => (s.field, i)))) := by
  rw [yields sels h, Option.map_some, writes_map]
  congr 2
  funext i
  simp only [expected, List.filterMap_append]
  have h2 : ((List.range nExt).map (fun k => Val.atom (Item.ext k ((ext k).getD i 0)))).filterMap
      mutTarget = [] := by
    simp [List.filterMap_map, Function.comp_def, mutTarget]
  rw [h2, List.append_nil, List.filterMap_map]
  exact mut_filter i sels

/-! non-vacuity / shape of the result on a concrete invocation:
    `soa_zip!(&mut v, [c, mut a], &e0)` on 3 elements with an external of 2 items -/
example : run [⟨2, false⟩, ⟨0, true⟩] 1 (fun _ => 3) (fun _ => [1000, 1001]) =
    some [[.atom (.ref 2 0 false), .atom (.ref 0 0 true), .atom (.ext 0 1000)],
          [.atom (.ref 2 1 false), .atom (.ref 0 1 true), .atom (.ext 0 1001)]] := by decide +kernel
example : run [] 1 (fun _ => 3) (fun _ => [1000, 1001]) = none := rfl

end Soa.C20
