import Soa.Lemmas.WriteRows
import Soa.Props.C04
/-!
# C05 — views cover the right window and confine mutation

A view of a lockstep container is a window `⟨s, l⟩` of parent positions, the same in every
field (each view operation of `slice.rs` is the same std slice operation on every field).
For every shape:
* what is visible through a window, field by field, is — transposed — exactly that window of
  the rows (`visible_rows`); the element at a position is that row (`rowIds_eq`,
  in `Soa/Lemmas/Positions.lean`);
* every view operation maps a window to the window std's slice operation gives on the
  visible rows, and panics / returns `None` exactly when std does — `split_at`,
  `split_first/last`, `first/last`, `reborrow`, and indexing by all seven forms through the
  **extracted** index layer (`viaIndex_eq_std`, from C04);
* windows stay inside the parent, so the statement composes along view-of-view paths of
  any depth (`Inside` is closed under every operation);
* a write through a mutable view or element reference changes exactly the addressed leaf
  array at the addressed position and nothing else (`write_frame`).
-/
namespace Soa.C05
open View

/-- the rows visible through a window -/
def visible {α : Type} (R : List α) (w : Win) : List α := (R.drop w.s).take w.l

/-- the window lies inside a parent of length `n` -/
def Inside (n : Nat) (w : Win) : Prop := w.s + w.l ≤ n

/-- **field-wise = row-wise**: the per-field windows, transposed, are the window of the rows -/
theorem visible_rows (c : Cols) (n : Nat) (hc : c.lock n) (w : Win) :
    (mapLeaves (fun l => (l.drop w.s).take w.l) c).rows = visible c.rows w :=
  (mapLeaves_rows (fun xs => (xs.drop w.s).take w.l) (by intros; simp [List.map_take, List.map_drop]) n c hc).1

/-- `as_slice()` / `as_mut_slice()`: the whole container -/
theorem whole {α : Type} (R : List α) : visible R ⟨0, R.length⟩ = R := by simp [visible]

/-! A window of a window is a window of the parent.  Every view operation below keeps a prefix
(`take`) or a suffix (`drop`) of its window, indexing a prefix of a suffix. -/

theorem Inside.take {n : Nat} {w : Win} (hw : Inside n w) {k : Nat} (h : k ≤ w.l) : Inside n ⟨w.s, k⟩ :=
  Nat.le_trans (Nat.add_le_add_left h w.s) hw

theorem Inside.drop {n : Nat} {w : Win} (hw : Inside n w) {k : Nat} (h : k ≤ w.l) : Inside n ⟨w.s + k, w.l - k⟩ := by
  unfold Inside
  rwa [Nat.add_assoc, Nat.add_sub_cancel' h]

section
variable {α : Type} (R : List α) (w : Win)

theorem visible_take (k : Nat) (h : k ≤ w.l) : visible R ⟨w.s, k⟩ = (visible R w).take k := by
  rw [visible, visible, List.take_take, Nat.min_eq_left h]

theorem visible_drop (k : Nat) : visible R ⟨w.s + k, w.l - k⟩ = (visible R w).drop k := by
  rw [visible, visible, List.drop_take, List.drop_drop]

theorem visible_getElem? (i : Nat) (h : i < w.l) : (visible R w)[i]? = R[w.s + i]? := by
  rw [visible, List.getElem?_take_of_lt h, List.getElem?_drop]

theorem visible_head? (h : w.l ≠ 0) : R[w.s]? = (visible R w).head? := by
  rw [List.head?_eq_getElem?, visible_getElem? R w 0 (Nat.pos_of_ne_zero h)]
  rfl

theorem visible_length (n : Nat) (hn : R.length = n) (hw : Inside n w) : (visible R w).length = w.l := by
  rw [visible, List.length_take, List.length_drop, hn]
  exact Nat.min_eq_left (Nat.le_sub_of_add_le' hw)

theorem visible_eq_nil (n : Nat) (hn : R.length = n) (hw : Inside n w) : visible R w = [] ↔ w.l = 0 := by
  rw [← List.length_eq_zero_iff, visible_length R w n hn hw]

theorem visible_getLast? (n : Nat) (hn : R.length = n) (hw : Inside n w) (h : w.l ≠ 0) :
    R[w.s + w.l - 1]? = (visible R w).getLast? := by
  rw [List.getLast?_eq_getElem?, visible_length R w n hn hw, visible_getElem? R w _ (Nat.sub_one_lt h),
    Nat.add_sub_assoc (Nat.one_le_iff_ne_zero.mpr h)]

end

/-- `split_at(k)`: panics iff `k > len`; the halves are std's `take k` / `drop k` of the view -/
theorem split_at {α : Type} (R : List α) (w : Win) (n : Nat) (hn : R.length = n) (hw : Inside n w) (k : Nat) :
    (k > (visible R w).length → splitAt w k 0 = .panic ∧ splitAt w k 1 = .panic) ∧
    (k ≤ (visible R w).length →
      ∃ a b, splitAt w k 0 = .ok a ∧ splitAt w k 1 = .ok b ∧ Inside n a ∧ Inside n b ∧
        visible R a = (visible R w).take k ∧ visible R b = (visible R w).drop k) := by
  rw [visible_length R w n hn hw]
  exact ⟨fun hk => ⟨if_neg (Nat.not_le.mpr hk), if_neg (Nat.not_le.mpr hk)⟩,
    fun hk => ⟨⟨w.s, k⟩, ⟨w.s + k, w.l - k⟩, if_pos hk, if_pos hk, hw.take hk, hw.drop hk,
      visible_take R w k hk, visible_drop R w k⟩⟩

/-- `split_first()`: `None` iff empty; else the first element's position and std's `tail` -/
theorem split_first {α : Type} (R : List α) (w : Win) (n : Nat) (hn : R.length = n) (hw : Inside n w) :
    ((visible R w) = [] → splitFirst w = .none) ∧
    (∀ x xs, visible R w = x :: xs →
      ∃ rest, splitFirst w = .ok (w.s, rest) ∧ Inside n rest ∧ R[w.s]? = some x ∧ visible R rest = xs) := by
  refine ⟨fun h => if_pos ((visible_eq_nil R w n hn hw).mp h), fun x xs h => ?_⟩
  have hne : w.l ≠ 0 := mt (visible_eq_nil R w n hn hw).mpr (h ▸ List.cons_ne_nil x xs)
  refine ⟨⟨w.s + 1, w.l - 1⟩, if_neg hne, hw.drop (Nat.pos_of_ne_zero hne),
    (visible_head? R w hne).trans (congrArg List.head? h), ?_⟩
  rw [visible_drop, h]
  rfl

/-- `split_last()`: `None` iff empty; else the last element's position and std's `dropLast` -/
theorem split_last {α : Type} (R : List α) (w : Win) (n : Nat) (hn : R.length = n) (hw : Inside n w) :
    ((visible R w) = [] → splitLast w = .none) ∧
    (w.l ≠ 0 → ∃ rest, splitLast w = .ok (w.s + w.l - 1, rest) ∧ Inside n rest ∧
      visible R rest = (visible R w).dropLast ∧ R[w.s + w.l - 1]? = (visible R w).getLast?) := by
  refine ⟨fun h => if_pos ((visible_eq_nil R w n hn hw).mp h), fun hne =>
    ⟨⟨w.s, w.l - 1⟩, if_neg hne, hw.take (Nat.sub_le ..), ?_, visible_getLast? R w n hn hw hne⟩⟩
  rw [List.dropLast_eq_take, visible_length R w n hn hw]
  exact visible_take R w _ (Nat.sub_le ..)

/-- `first()` / `last()` -/
theorem first_last {α : Type} (R : List α) (w : Win) (n : Nat) (hn : R.length = n) (hw : Inside n w) :
    (match first w with | .ok p => R[p]? | _ => none) = (visible R w).head? ∧
    (match last w with | .ok p => R[p]? | _ => none) = (visible R w).getLast? := by
  unfold first last
  by_cases h0 : w.l = 0
  · rw [if_pos h0, if_pos h0, (visible_eq_nil R w n hn hw).mpr h0]
    exact ⟨rfl, rfl⟩
  · rw [if_neg h0, if_neg h0]
    exact ⟨visible_head? R w h0, visible_getLast? R w n hn hw h0⟩

/-- indexing a view by any of the seven forms through the index layer **extracted from
    /repo**: the window std's indexing selects on the visible rows, same panic / `None` -/
theorem viaIndex_eq_std (p : IdxIR.Prof) (sh : IdxIR.Shape) (hw : sh.wf) (k : IdxIR.Kind) (w : Win)
    (iv : IdxIR.IV) (hiv : C04.IV.ok iv) :
    viaIndex p sh k (C04.indexOf k) w iv = viaStd false w iv ∧
    viaIndex p sh k (C04.getOf k) w iv = viaStd true w iv := by
  unfold viaIndex viaStd
  rw [C04.index_agrees p w.l sh hw k iv hiv, C04.get_agrees p w.l sh hw k iv hiv]
  rcases IdxIR.stdGet w.l iv with _ | ⟨a, l⟩ <;> exact ⟨rfl, rfl⟩

/-- the window std selects is inside the view, hence inside the parent, and shows the
    std sub-slice of the visible rows -/
theorem viaStd_window {α : Type} (R : List α) (w : Win) (n : Nat) (hn : R.length = n) (hw : Inside n w)
    (iv : IdxIR.IV) (a l : Nat) (h : IdxIR.stdGet w.l iv = some (a, l)) :
    Inside n ⟨w.s + a, l⟩ ∧ visible R ⟨w.s + a, l⟩ = ((visible R w).drop a).take l := by
  have hb := C04.stdGet_inbounds w.l iv a l h
  have hl : l ≤ w.l - a := Nat.le_sub_of_add_le' hb
  rw [← visible_drop]
  exact ⟨(hw.drop (Nat.le_of_add_right_le hb)).take hl, visible_take R ⟨w.s + a, w.l - a⟩ l hl⟩

/-- `vec.slice(a..b)` / `slice_mut(a..b)`: std range indexing of every field -/
theorem vec_slice {α : Type} (R : List α) (a b : Nat) :
    (a ≤ b ∧ b ≤ R.length → vecSlice R.length a b = .ok ⟨a, b - a⟩ ∧ Inside R.length ⟨a, b - a⟩ ∧
      visible R ⟨a, b - a⟩ = (R.drop a).take (b - a)) ∧
    (¬ (a ≤ b ∧ b ≤ R.length) → vecSlice R.length a b = .panic) :=
  ⟨fun h => ⟨if_pos h, Nat.le_trans (Nat.le_of_eq (Nat.add_sub_cancel' h.1)) h.2, rfl⟩, fun h => if_neg h⟩

/-- **a write through a mutable view / element reference is confined**: writing leaf `leaf`
    at parent position `pos` replaces that one cell of that one leaf array; every other leaf
    array and every other position is untouched -/
theorem write_frame (leaf pos id : Nat) : ∀ (c : Cols) (j : Nat),
    (Model.setLeaf leaf pos id c j).1.leaves =
      (List.zipIdx c.leaves j).map (fun p => if p.2 = leaf then p.1.set pos id else p.1) ∧
    (Model.setLeaf leaf pos id c j).2 = j + c.leaves.length :=
  setLeaf_leaves leaf pos id

example : Inside 5 ⟨1, 3⟩ := by unfold Inside; decide
example : visible [10, 11, 12, 13, 14] ⟨1, 3⟩ = [11, 12, 13] := rfl
example : (Model.setLeaf 1 2 99 (.nest [.leaf [1, 2, 3], .nest [.leaf [4, 5, 6], .leaf [7, 8, 9]]]) 0).1.leaves =
    [[1, 2, 3], [4, 5, 99], [7, 8, 9]] := rfl

/-- **text pin**: the generated functions this property's hand-written model describes have, in
    /repo today, exactly the text the model was written from (`Soa/Model/Pinned.lean`) -/
theorem bodies_pinned : Soa.Extracted.bodies_C05 = Soa.Model.pinned_C05 := rfl

theorem bodies_pinned_nonempty : Soa.Model.pinned_C05.length ≥ 4 := by decide

end Soa.C05
