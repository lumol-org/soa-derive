import Soa.Props.C01
import Soa.Lemmas.GenTie
/-!
# C01 for the vector API *as extracted from /repo*: every finite history refines `Vec<T>`

`gstep` is one call of the vector API computed the way the model driver computes it: from the
templates and statement trees the translator extracted from /repo on this run, the loops
calling the extracted element-level methods.  `history_extracted` is `C01.history` for it:
for every shape, every lockstep start and every finite sequence of operations with arbitrary
(valid or invalid) arguments, the observations (panic flag, returned value, `None`) and the
final contents are those of the same sequence on the `Vec<T>` of rows.
-/
namespace Soa.C01
open Soa.Exec

def gstep (dr : Bool) (c : Cols) : Op → Model.Out
  | .push e => Gen.push dr c e | .pop => Gen.pop dr c | .insert i e => Gen.insert dr c i e
  | .replace i e => Gen.replace dr c i e | .remove i => Gen.remove dr c i
  | .swapRemove i => Gen.swapRemove dr c i | .truncate k => Gen.truncate dr c k
  | .clear => Gen.clear dr c | .retain keep => Gen.retain dr false c keep none (fun _ _ => none)
  | .retainMut keep touch => Gen.retain dr true c keep none touch
  | .extend es => Gen.extend dr c es | .resize k e => Gen.resize dr c k e
  | .splitOff i => Gen.splitOff dr c i | .extendFromSlice d => Gen.extendFromSlice dr c d
  | .append d => Gen.append dr c d

/-- same contents left behind, same panic flag, same returned value, same `None` -/
def Eqv (a b : Model.Out) : Prop := a.st = b.st ∧ a.panicked = b.panicked ∧ a.ret = b.ret ∧ a.isNone = b.isNone

theorem Eqv.of_eq {a b : Model.Out} (h : a = b) : Eqv a b := by subst h; exact ⟨rfl, rfl, rfl, rfl⟩

variable {c : Cols} {n : Nat}

/-- one extracted call = one call of the hand-written model (the clone events of `extend_from_slice` aside) -/
theorem gstep_eqv (dr : Bool) (op : Op) (hc : c.lock n) (hw : op.wf c) : Eqv (gstep dr c op) (mstep dr c op) := by
  cases op with
  | push e => exact .of_eq (Gen.push_eq dr c e)
  | pop => exact .of_eq (Gen.pop_eq dr c)
  | insert i e => exact .of_eq (Gen.insert_eq dr i hc hw.1 hw.2)
  | replace i e => exact .of_eq (Gen.replace_eq dr i hc hw.1 hw.2)
  | remove i => exact .of_eq (Gen.remove_eq dr c i)
  | swapRemove i => exact .of_eq (Gen.swapRemove_eq dr c i)
  | truncate k => exact .of_eq (Gen.truncate_eq dr k hc)
  | clear => exact .of_eq (Gen.clear_eq dr hc)
  | retain keep => exact .of_eq (Gen.retain_eq dr false keep none hc)
  | retainMut keep touch => exact .of_eq (Gen.retain_eq_w dr true keep none touch hc)
  | extend es => exact .of_eq (Gen.extend_eq dr c es)
  | resize k e => exact .of_eq (Gen.resize_eq dr k hc hw.1 hw.2)
  | splitOff i => exact .of_eq (Gen.splitOff_eq dr c i)
  | append d => exact .of_eq (Gen.append_eq dr c d)
  | extendFromSlice d =>
    have h := Gen.extendFromSlice_core dr c d
    simp only [Lp.core, Prod.mk.injEq] at h
    refine ⟨h.1, h.2.1, ?_⟩
    -- the interpreter hands nothing back from a unit function, and neither does the model
    simp only [gstep, Gen.extendFromSlice]
    generalize hr : Lp.run _ _ _ = r
    cases r with
    | none => exact ⟨rfl, rfl⟩
    | some o => exact Lp.run_ret_none Lp.efs_stmts.2 hr

theorem gstep_refines (dr : Bool) (op : Op) (hc : c.lock n) (hw : op.wf c) :
    Refines c (gstep dr c op) (sstep dr c.rows op) := by
  have h := step_refines dr op hc hw
  -- `Refines` reads of an outcome the four fields `Eqv` compares, and nothing else
  obtain ⟨hst, hp, hret, hnone⟩ := gstep_eqv dr op hc hw
  exact ⟨by rw [hp]; exact h.panicked, by rw [hst]; exact h.st, by rw [hret]; exact h.ret, by rw [hnone]; exact h.isNone,
    by rw [hst]; exact h.lock, by rw [hst]; exact h.same, by rw [hst, hp]; exact h.atomic⟩

def grun (dr : Bool) : Cols → List Op → List (Bool × Option (List Elem) × Bool) × Cols
  | c, [] => ([], c)
  | c, op :: ops => let o := gstep dr c op; let r := grun dr o.st ops; (obsM o :: r.1, r.2)

/-- **C01 for the extracted vector API, histories** -/
theorem history_extracted (dr : Bool) : ∀ (ops : List Op) (c : Cols) (n : Nat), c.lock n → (∀ op ∈ ops, op.wf c) →
    (grun dr c ops).1 = (srun dr c.rows ops).1 ∧ (grun dr c ops).2.rows = (srun dr c.rows ops).2 ∧
      (∃ m, (grun dr c ops).2.lock m) ∧ c.same (grun dr c ops).2
  | [], c, n, hc, _ => ⟨rfl, rfl, ⟨n, hc⟩, same_refl c⟩
  | op :: ops, c, n, hc, hw => by
    have h := gstep_refines dr op hc (hw op (by simp))
    obtain ⟨m, hm⟩ := h.lock
    have ih := history_extracted dr ops (gstep dr c op).st m hm
      (fun o ho => wf_same h.same o (hw o (by simp [ho])))
    simp only [grun, srun]
    rw [h.st] at ih
    obtain ⟨hobs, hrows, hlock, hsame⟩ := ih
    refine ⟨?_, hrows, hlock, same_trans _ _ _ h.same hsame⟩
    rw [hobs]
    simp [obsM, obsS, h.panicked, h.ret, h.isNone]

/-- non-vacuity: a concrete history on the concrete nested container -/
example : (grun false exC [.insert 1 exE, .pop, .truncate 1]).2.rows = (srun false exC.rows [.insert 1 exE, .pop, .truncate 1]).2 :=
  (history_extracted false [.insert 1 exE, .pop, .truncate 1] exC 2 exC_lock
    (by intro op hop
        simp only [List.mem_cons, List.mem_nil_iff, or_false] at hop
        rcases hop with rfl | rfl | rfl
        · exact ⟨exE_lock, exC_same⟩
        · trivial
        · trivial)).2.1

end Soa.C01
