import Soa.Lemmas.Cap
import Soa.Model.Pinned
import Soa.Extracted.Bodies
/-!
# C12 — capacity contract

Over the numeric model of the field vectors' capacities (`Soa/Model/Cap.lean`, std's
`RawVec` policy, validated against the real std on every run): for every struct shape —
in particular fields in different std growth classes and zero-sized fields — `len ≤ cap`
holds in every field always; `capacity()` returns `c ≥ len` such that the next `c - len`
pushes reallocate no field; after `with_capacity(n)`, `reserve(n)`, `reserve_exact(n)` the
next `n` pushes reallocate no field.  (A field array moves only when its vector
reallocates; reserve/shrink do not touch the contents in the model by construction, which
the correspondence checks on the real code.)
-/
namespace Soa.C12
open Soa.Cap

theorem capacity_le (s : St) : ∀ p ∈ s.caps, s.capacity ≤ p.2 :=
  fun p hp => (le_capacity s (List.ne_nil_of_mem hp) _).mp (Nat.le_refl _) p hp

/-- **`capacity() ≥ len()`, without panicking** (it is a total function of the field capacities) -/
theorem capacity_ge_len (s : St) (hne : s.caps ≠ []) (h : s.Inv) : s.len ≤ s.capacity :=
  (le_capacity s hne _).mpr h

theorem reserveExact_ge (k : Char) (len add cap : Nat) (h : len ≤ cap) (hz : k = 'z' → cap = MAXU) (hl : len + add ≤ MAXU) :
    len + add ≤ leafReserveExact k len add cap := by
  unfold leafReserveExact
  split
  · next hk => rw [hz hk]; exact hl
  · split <;> omega

/-- `reserve` allots at least what `reserve_exact` does: where they grow, `grow_amortized` takes a maximum with `len + add` -/
theorem leafReserveExact_le (k : Char) (len add cap : Nat) : leafReserveExact k len add cap ≤ leafReserve k len add cap := by
  unfold leafReserveExact leafReserve growAmortized
  split
  · exact Nat.le_refl _
  · split
    · exact Nat.le_trans (Nat.le_max_right _ _) (Nat.le_max_left _ _)
    · exact Nat.le_refl _

theorem reserve_ge (k : Char) (len add cap : Nat) (h : len ≤ cap) (hz : k = 'z' → cap = MAXU) (hl : len + add ≤ MAXU) :
    len + add ≤ leafReserve k len add cap :=
  Nat.le_trans (reserveExact_ge k len add cap h hz hl) (leafReserveExact_le k len add cap)

theorem St.forall_map {s : St} {len' : Nat} {f : Char → Nat → Nat} {P : Char × Nat → Prop}
    (h : ∀ q ∈ s.caps, P (q.1, f q.1 q.2)) : ∀ p ∈ (s.map len' f).caps, P p :=
  List.forall_mem_map.mpr h

theorem push_spare (k : Char) (len cap : Nat) (h : len < cap) : leafPush k len cap = cap := by
  unfold leafPush leafReserve
  split
  · rfl
  · rw [if_neg (by omega)]

theorem pushAll_spare (s : St) (h : ∀ p ∈ s.caps, s.len < p.2) : s.push.caps = s.caps := by
  have : s.caps.map (fun p => (p.1, leafPush p.1 s.len p.2)) = s.caps.map id :=
    List.map_congr_left fun p hp => Prod.ext rfl (push_spare p.1 s.len p.2 (h p hp))
  rwa [List.map_id] at this

/-- **the promise**: while `len + k ≤` every field's capacity, `k` pushes reallocate no field
    (no field array moves) -/
theorem pushes_no_realloc : ∀ (k : Nat) (s : St), (∀ p ∈ s.caps, s.len + k ≤ p.2) →
    (St.pushes k s).caps = s.caps ∧ (St.pushes k s).len = s.len + k
  | 0, s, _ => ⟨rfl, rfl⟩
  | k + 1, s, h => by
    have h1 : s.push.caps = s.caps :=
      pushAll_spare s fun p hp => Nat.lt_of_lt_of_le (Nat.lt_add_of_pos_right k.succ_pos) (h p hp)
    have ih := pushes_no_realloc k s.push fun p hp =>
      Nat.le_trans (Nat.le_of_eq (Nat.add_right_comm _ 1 k)) (h p (h1 ▸ hp))
    exact ⟨ih.1.trans h1, ih.2.trans (Nat.add_right_comm _ 1 k)⟩

/-- **after `capacity()` returned `c`: `c - len` further pushes move nothing** -/
theorem capacity_promise (s : St) (hne : s.caps ≠ []) (h : s.Inv) :
    (St.pushes (s.capacity - s.len) s).caps = s.caps :=
  (pushes_no_realloc (s.capacity - s.len) s fun p hp =>
    Nat.le_trans (Nat.le_of_eq (Nat.add_sub_cancel' (capacity_ge_len s hne h))) (capacity_le s p hp)).1

/-- **after `reserve(n)`: `n` further pushes move nothing** -/
theorem reserve_promise (s : St) (n : Nat) (h : s.Inv) (hz : s.ZInv) (hl : s.len + n ≤ MAXU) :
    (St.pushes n (s.reserve n)).caps = (s.reserve n).caps :=
  (pushes_no_realloc n (s.reserve n)
    (St.forall_map fun q hq => reserve_ge q.1 s.len n q.2 (h q hq) (hz q hq) hl)).1

/-- **after `reserve_exact(n)`: `n` further pushes move nothing** -/
theorem reserveExact_promise (s : St) (n : Nat) (h : s.Inv) (hz : s.ZInv) (hl : s.len + n ≤ MAXU) :
    (St.pushes n (s.reserveExact n)).caps = (s.reserveExact n).caps :=
  (pushes_no_realloc n (s.reserveExact n)
    (St.forall_map fun q hq => reserveExact_ge q.1 s.len n q.2 (h q hq) (hz q hq) hl)).1

/-- **a reservation never takes anything back**: `reserve(k)` / `reserve_exact(k)` leave every field's capacity at
    least where it was, for every `k` (std: "does nothing if capacity is already sufficient") -/
theorem leafReserveExact_mono (k : Char) (len add cap : Nat) : cap ≤ leafReserveExact k len add cap := by
  unfold leafReserveExact
  split
  · exact Nat.le_refl _
  · split <;> omega

theorem leafReserve_mono (k : Char) (len add cap : Nat) : cap ≤ leafReserve k len add cap :=
  Nat.le_trans (leafReserveExact_mono k len add cap) (leafReserveExact_le k len add cap)

/-- growth never gives capacity back either: a push (and `insert`, `extend`, `append`, `resize` — `St.grow`) leaves every
    field's capacity at least where it was -/
theorem push_grow_mono (s : St) (add : Nat) :
    (∀ q ∈ s.caps, q.2 ≤ leafPush q.1 s.len q.2) ∧ (∀ q ∈ s.caps, q.2 ≤ leafReserve q.1 s.len add q.2) :=
  ⟨fun q _ => leafReserve_mono q.1 s.len 1 q.2, fun q _ => leafReserve_mono q.1 s.len add q.2⟩

/-- **a standing promise survives later reservations**: if `n` more pushes were guaranteed not to move anything (after
    `with_capacity`, `reserve`, `reserve_exact`), they still are after any further `reserve(k)` / `reserve_exact(k)` -/
theorem promise_survives_reserve (s : St) (n k : Nat) (h : ∀ p ∈ s.caps, s.len + n ≤ p.2) :
    (∀ p ∈ (s.reserve k).caps, (s.reserve k).len + n ≤ p.2) ∧
    (∀ p ∈ (s.reserveExact k).caps, (s.reserveExact k).len + n ≤ p.2) :=
  ⟨St.forall_map fun q hq => Nat.le_trans (h q hq) (leafReserve_mono q.1 s.len k q.2),
   St.forall_map fun q hq => Nat.le_trans (h q hq) (leafReserveExact_mono q.1 s.len k q.2)⟩

/-- … so the promised pushes after `reserve(n)` then `reserve_exact(k)` (any `k`) move nothing -/
theorem reserve_then_reserveExact_promise (s : St) (n k : Nat) (h : s.Inv) (hz : s.ZInv) (hl : s.len + n ≤ MAXU) :
    (St.pushes n ((s.reserve n).reserveExact k)).caps = ((s.reserve n).reserveExact k).caps := by
  refine (pushes_no_realloc n _ ?_).1
  exact (promise_survives_reserve (s.reserve n) n k
    (St.forall_map fun q hq => reserve_ge q.1 s.len n q.2 (h q hq) (hz q hq) hl)).2

/-- **after `with_capacity(n)`: `n` pushes move nothing** -/
theorem withCapacity_promise (kinds : List Char) (n : Nat) (hn : n ≤ MAXU) :
    (St.pushes n (St.new kinds n)).caps = (St.new kinds n).caps := by
  refine (pushes_no_realloc n (St.new kinds n) (List.forall_mem_map.mpr fun k _ => ?_)).1
  simp only [St.new, leafExact, Nat.zero_add]
  split <;> omega

theorem inv_grow (s : St) (add : Nat) (h : s.Inv) (hz : s.ZInv) (hl : s.len + add ≤ MAXU) : (s.grow add).Inv :=
  St.forall_map fun q hq => reserve_ge q.1 s.len add q.2 (h q hq) (hz q hq) hl

theorem inv_push (s : St) (h : s.Inv) (hz : s.ZInv) (hl : s.len + 1 ≤ MAXU) : s.push.Inv :=
  inv_grow s 1 h hz hl

theorem inv_shrink (s : St) (h : s.Inv) : s.shrink.Inv :=
  St.forall_map fun q hq => by
    have := h q hq
    show s.len ≤ leafShrink q.1 s.len q.2
    simp only [leafShrink]
    split
    · exact this
    · split <;> omega

theorem inv_setLen (s : St) (len' : Nat) (h : s.Inv) (hle : len' ≤ s.len) : (s.setLen len').Inv :=
  fun p hp => Nat.le_trans hle (h p hp)

theorem inv_new (kinds : List Char) (n : Nat) : (St.new kinds n).Inv :=
  List.forall_mem_map.mpr fun _ _ => Nat.zero_le _

/-! non-vacuity: `{ flag: 1 byte, x: 8 bytes }` after one push has field capacities 8 and 4;
    `capacity()` is 4 and three more pushes move nothing, a fourth reallocates the second field -/
def two : St := (St.new ['b', 's'] 0).push
example : two.caps = [('b', 8), ('s', 4)] ∧ two.capacity = 4 := by decide
example : two.Inv := by unfold St.Inv; decide
example : (St.pushes 3 two).caps = two.caps ∧ (St.pushes 4 two).caps ≠ two.caps := by decide

/-- **text pin**: the generated functions this property's hand-written model describes have, in
    /repo today, exactly the text the model was written from (`Soa/Model/Pinned.lean`) -/
theorem bodies_pinned : Soa.Extracted.bodies_C12 = Soa.Model.pinned_C12 := rfl

theorem bodies_pinned_nonempty : Soa.Model.pinned_C12.length ≥ 4 := by decide

end Soa.C12
