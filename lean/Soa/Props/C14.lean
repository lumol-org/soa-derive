import Soa.Extracted.Derive
import Soa.Core
/-!
# C14 — requested traits and attributes land on the right generated types

`Soa.Derive` models the attribute loop of `Input::new` and the attribute lists the
generators put on the seven generated structs.  Tie: the translator runs the **real**
`Input::new` and generators of /repo on a corpus of attribute lists — all 256 subsets of the
eight std traits, `Copy` in every position, the serde traits, unknown traits, duplicates,
several `soa_derive` attributes, every kind through `soa_attr` (alone, before and after a
`soa_derive`, with derives and with tagged attributes), foreign attributes, wrong kinds — and
records the attributes found on the seven generated struct items and the presence of the
cloning API; `table_agrees` evaluates the model on every row in the kernel.

The theorems then hold for **every** attribute list, not just the corpus:
* `lands`: an attribute is on the list of kind `K` iff it was given through
  `soa_attr(K, ·)`, or is `derive(t)` for a trait `t ≠ Default` named in a `soa_derive` and
  (`K = Vec` or `t ∉ {Clone, Serialize, Deserialize}`);
* `attr_exact`: `soa_attr(K, a)` lands on `K` and on no other kind (unless requested for it);
* `rejected_iff`: the derive panics iff `Copy` is requested or a `soa_attr` names no kind;
* `clone_api_iff`: the cloning API is generated iff `Clone` is named in a `soa_derive`;
* `default_always`, `copy_views`: vector, slice and mutable slice always derive `Default`;
  slice, reference and both pointer types always derive `Copy, Clone`;
* `trait_table`: the complete 7 × trait truth table of what is derived where;
* `eq_elementwise`: field-wise equality of two lockstep containers of one shape (what the
  derived `PartialEq` of the vector and views computes) is equality of the rows
  (element-wise equality).
-/
namespace Soa.C14
open Soa.Derive

/-- **translator tie**: on every row of the corpus the real generator produced what the model predicts -/
theorem table_agrees : Extracted.deriveTable.all (fun r => decide (predict r.dirs = r.out)) = true := by
  decide +kernel

theorem corpus_size : Extracted.deriveTable.length = Extracted.nDeriveCases ∧ 300 ≤ Extracted.nDeriveCases := by
  decide +kernel

/-! ## the attribute loop, list by list

The lists only grow: every attribute of the input appends `contrib K ·` to the list of kind `K`
(`process_some`), so the list of `K` is the concatenation of the contributions in source order;
membership (`lands`) is read off `mem_contrib`. -/

theorem push_get (a : Attrs) (k k' : Kind) (x : At) :
    (a.push k x).get k' = if k' = k then a.get k' ++ [x] else a.get k' := by
  cases k <;> cases k' <;> rfl

theorem push_clone (a : Attrs) (k : Kind) (x : At) : (a.push k x).deriveClone = a.deriveClone := by
  cases k <;> rfl

theorem addDerive_get (a : Attrs) (t : Tr) (K : Kind) :
    (addDerive a t).get K = if K = .vec ∨ vecOnly t = false then a.get K ++ [.derive [t]] else a.get K := by
  -- with `a` a constructor application the 28 cases are closed by unfolding projections
  obtain ⟨c, v, s, sm, r, rm, p, pm⟩ := a
  unfold addDerive
  cases hv : vecOnly t <;> simp only [Bool.false_eq_true, ↓reduceIte] <;> split <;> cases K <;> rfl

theorem addDerive_clone (a : Attrs) (t : Tr) :
    (addDerive a t).deriveClone = (a.deriveClone || decide (t = .Clone)) := by
  unfold addDerive
  by_cases h : t = .Clone
  · simp [h]
  · cases hv : vecOnly t <;> simp [h, push_clone]

/-- `soa_derive(t)` puts `derive(t)` on the list of kind `K` -/
def gives (K : Kind) (t : Tr) : Bool := t != .Default && (K == .vec || !vecOnly t)

theorem gives_iff (K : Kind) (t : Tr) : gives K t = true ↔ t ≠ .Default ∧ (K = .vec ∨ vecOnly t = false) := by
  simp [gives]

/-- what one attribute of the input appends to the list of kind `K` -/
def contrib (K : Kind) : Directive → List At
  | .soaDerive ts => (ts.filter (gives K)).map (fun t => .derive [t])
  | .soaAttr k x => if K = k then [x] else []
  | _ => []

theorem processDerive_none : ∀ (ts : List Tr) (a : Attrs), processDerive a ts = none ↔ .Copy ∈ ts
  | [], a => by simp [processDerive]
  | t :: ts, a => by
    unfold processDerive
    split
    · next hc => simp [hc]
    · next hc => split <;> simp [processDerive_none ts, Ne.symm hc]

theorem processDerive_some : ∀ (ts : List Tr) (a a' : Attrs), processDerive a ts = some a' →
    (∀ K, a'.get K = a.get K ++ (ts.filter (gives K)).map (fun t => .derive [t])) ∧
    a'.deriveClone = (a.deriveClone || ts.contains .Clone)
  | [], a, a', h => by cases h; simp
  | t :: ts, a, a', h => by
    unfold processDerive at h
    split at h
    · cases h
    · split at h
      · next hd =>
        obtain ⟨h1, h2⟩ := processDerive_some ts a a' h
        exact ⟨fun K => by simp [h1, hd, gives], by simp [h2, hd]⟩
      · next hd =>
        obtain ⟨h1, h2⟩ := processDerive_some ts _ a' h
        refine ⟨fun K => ?_, by simp [h2, addDerive_clone, Bool.or_assoc, eq_comm]⟩
        rw [h1, addDerive_get]
        by_cases hk : K = .vec ∨ vecOnly t = false
        · simp [hk, (gives_iff K t).mpr ⟨hd, hk⟩]
        · simp [hk, Bool.eq_false_iff.mpr (fun h => hk ((gives_iff K t).mp h).2)]

/-- a `soa_derive` attribute of the input names trait `t` -/
def Requested (ds : List Directive) (t : Tr) : Prop := ∃ ts, Directive.soaDerive ts ∈ ds ∧ t ∈ ts

/-- the input makes the derive panic -/
def Bad (ds : List Directive) : Prop := Requested ds .Copy ∨ ∃ x, Directive.soaAttrBad x ∈ ds

@[simp] theorem requested_cons (d : Directive) (ds : List Directive) (t : Tr) :
    Requested (d :: ds) t ↔ (∃ ts, d = .soaDerive ts ∧ t ∈ ts) ∨ Requested ds t := by
  simp only [Requested, List.mem_cons, or_and_right, exists_or, eq_comm (a := d)]

@[simp] theorem bad_cons (d : Directive) (ds : List Directive) :
    Bad (d :: ds) ↔ ((∃ ts, d = .soaDerive ts ∧ .Copy ∈ ts) ∨ ∃ x, d = .soaAttrBad x) ∨ Bad ds := by
  simp only [Bad, requested_cons, List.mem_cons, exists_or, eq_comm (a := d)]
  exact or_or_or_comm

theorem process_none : ∀ (ds : List Directive) (a : Attrs), process a ds = none ↔ Bad ds
  | [], a => by simp [process, Bad, Requested]
  | .soaDerive ts :: ds, a => by
    rw [process, bad_cons]
    cases hp : processDerive a ts with
    | none => simp [(processDerive_none ts a).mp hp]
    | some a1 =>
      have hc : Tr.Copy ∉ ts := fun h => by simp [(processDerive_none ts a).mpr h] at hp
      simp [process_none ds a1, hc]
  | .soaAttr k y :: ds, a => by simp [process, process_none ds]
  | .soaAttrBad y :: ds, a => by simp [process]
  | .foreign :: ds, a => by simp [process, process_none ds]

theorem process_some : ∀ (ds : List Directive) (a a' : Attrs), process a ds = some a' →
    (∀ K, a'.get K = a.get K ++ ds.flatMap (contrib K)) ∧
    (a'.deriveClone = true ↔ a.deriveClone = true ∨ Requested ds .Clone)
  | [], a, a', h => by cases h; simp [Requested]
  | .soaDerive ts :: ds, a, a', h => by
    rw [process] at h
    cases hp : processDerive a ts with
    | none =>
      rw [hp] at h
      cases h
    | some a1 =>
      rw [hp] at h
      obtain ⟨p1, p2⟩ := processDerive_some ts a a1 hp
      obtain ⟨q1, q2⟩ := process_some ds a1 a' h
      exact ⟨fun K => by simp [q1, p1, contrib], by simp [q2, p2, or_assoc]⟩
  | .soaAttr k y :: ds, a, a', h => by
    obtain ⟨q1, q2⟩ := process_some ds _ a' h
    refine ⟨fun K => ?_, by simp [q2, push_clone]⟩
    rw [q1, push_get]
    by_cases hk : K = k <;> simp [contrib, hk]
  | .soaAttrBad y :: ds, a, a', h => by simp [process] at h
  | .foreign :: ds, a, a', h => by
    obtain ⟨q1, q2⟩ := process_some ds a a' h
    exact ⟨fun K => by simp [q1, contrib], by simp [q2]⟩

theorem mem_contrib (K : Kind) (x : At) (ds : List Directive) :
    x ∈ ds.flatMap (contrib K) ↔ Directive.soaAttr K x ∈ ds ∨
      ∃ t, Requested ds t ∧ t ≠ .Default ∧ x = .derive [t] ∧ (K = .vec ∨ vecOnly t = false) := by
  simp only [List.mem_flatMap]
  constructor
  · rintro ⟨d, hd, hx⟩
    cases d with
    | soaDerive ts =>
      simp only [contrib, List.mem_map, List.mem_filter, gives_iff] at hx
      obtain ⟨t, ⟨ht, hn, hk⟩, rfl⟩ := hx
      exact .inr ⟨t, ⟨ts, hd, ht⟩, hn, rfl, hk⟩
    | soaAttr k y =>
      simp only [contrib] at hx
      split at hx
      · simp only [List.mem_singleton] at hx
        subst_vars
        exact .inl hd
      · cases hx
    | _ => cases hx
  · rintro (h | ⟨t, ⟨ts, hd, ht⟩, hn, rfl, hk⟩)
    · exact ⟨_, h, by simp [contrib]⟩
    · exact ⟨_, hd, by simp [contrib, gives_iff, ht, hn, hk]⟩

/-- **rejection**: the derive panics exactly when `Copy` is requested or a `soa_attr` names no kind -/
theorem rejected_iff (ds : List Directive) : process .empty ds = none ↔ Bad ds := process_none ds .empty

/-- **landing**: what is on the list of kind `K` -/
theorem lands (ds : List Directive) (a : Attrs) (h : process .empty ds = some a) (K : Kind) (x : At) :
    x ∈ a.get K ↔ Directive.soaAttr K x ∈ ds ∨
      ∃ t, Requested ds t ∧ t ≠ .Default ∧ x = .derive [t] ∧ (K = .vec ∨ vecOnly t = false) := by
  rw [(process_some ds .empty a h).1 K, ← mem_contrib]
  cases K <;> rfl   -- `Attrs.empty.get K` is `[]`

/-- **a requested trait** is derived by the vector, and by the six other types unless it is
    `Clone`, `Serialize` or `Deserialize` -/
theorem derive_lands (ds : List Directive) (a : Attrs) (h : process .empty ds = some a) (t : Tr)
    (hr : Requested ds t) (hd : t ≠ .Default) :
    .derive [t] ∈ a.get .vec ∧ (vecOnly t = false → ∀ K, .derive [t] ∈ a.get K) := by
  refine ⟨(lands ds a h .vec _).mpr (.inr ⟨t, hr, hd, rfl, .inl rfl⟩), fun hv K => ?_⟩
  exact (lands ds a h K _).mpr (.inr ⟨t, hr, hd, rfl, .inr hv⟩)

/-- **vector-only traits stay on the vector**: `Clone`, `Serialize`, `Deserialize` reach another
    type only through an explicit `soa_attr` for that type -/
theorem vec_only_stays (ds : List Directive) (a : Attrs) (h : process .empty ds = some a) (t : Tr)
    (hv : vecOnly t = true) (K : Kind) (hK : K ≠ .vec) (hm : At.derive [t] ∈ a.get K) :
    Directive.soaAttr K (.derive [t]) ∈ ds := by
  rcases (lands ds a h K _).mp hm with h1 | ⟨u, _, _, he, hk⟩
  · exact h1
  · cases he
    rcases hk with hk | hk
    · exact absurd hk hK
    · rw [hv] at hk; cases hk

/-- **`soa_attr(K, x)` lands on exactly `K`**: on `K`, and on another kind only if that kind
    asked for it too (by its own `soa_attr`, or `x` is a derive requested for all) -/
theorem attr_exact (ds : List Directive) (a : Attrs) (h : process .empty ds = some a) (K : Kind) (x : At)
    (hx : Directive.soaAttr K x ∈ ds) :
    x ∈ a.get K ∧ ∀ K', x ∈ a.get K' → K' ≠ K →
      Directive.soaAttr K' x ∈ ds ∨ ∃ t, Requested ds t ∧ x = .derive [t] := by
  refine ⟨(lands ds a h K x).mpr (.inl hx), fun K' hm _ => ?_⟩
  rcases (lands ds a h K' x).mp hm with h1 | ⟨t, hr, _, he, _⟩
  · exact .inl h1
  · exact .inr ⟨t, hr, he⟩

/-- **cloning API** (`to_vec`, `resize`, `extend_from_slice`) is generated iff `Clone` is requested -/
theorem clone_api_iff (ds : List Directive) (a : Attrs) (h : process .empty ds = some a) :
    a.deriveClone = true ↔ Requested ds .Clone := by
  simpa [Attrs.empty] using (process_some ds .empty a h).2

theorem derives_append (l m : List At) (t : Tr) : derives (l ++ m) t = (derives l t || derives m t) := by
  simp [derives, List.any_append]

theorem derives_iff (l : List At) (t : Tr) : derives l t = true ↔ ∃ ts, At.derive ts ∈ l ∧ t ∈ ts := by
  simp only [derives, List.any_eq_true]
  constructor
  · rintro ⟨x, hx, h⟩
    cases x with
    | derive ts => exact ⟨ts, hx, by simpa using h⟩
    | other n => simp at h
  · rintro ⟨ts, hx, h⟩
    exact ⟨_, hx, by simpa using h⟩

/-- built-in derives of the generators -/
def builtin : Kind → Tr → Bool
  | .vec, .Default | .slice, .Default | .sliceMut, .Default => true
  | .slice, .Copy | .slice, .Clone | .ref, .Copy | .ref, .Clone => true
  | .ptr, .Copy | .ptr, .Clone | .ptrMut, .Copy | .ptrMut, .Clone => true
  | _, _ => false

/-- built in is what an input without attributes gets -/
theorem builtin_eq (K : Kind) (t : Tr) : builtin K t = derives (emitted .empty K) t := by
  cases K <;> cases t <;> rfl

/-- **the truth table**: trait `t` is derived on the generated type of kind `K` iff it is
    built in there or some attribute on `K`'s list derives it -/
theorem trait_table (a : Attrs) (K : Kind) (t : Tr) :
    derives (emitted a K) t = (builtin K t || derives (a.get K) t) := by
  rw [builtin_eq]
  -- `derives` of an append is the disjunction: both sides have the same disjuncts, in another order
  cases K <;> simp only [emitted, Attrs.empty, Attrs.get, derives_append, List.append_nil, List.nil_append]
  case refMut => rfl   -- nothing built in: `derives [] t` is `false`
  all_goals ac_rfl

/-- vector, slice and mutable slice are always `Default`, whatever the input says -/
theorem default_always (a : Attrs) :
    derives (emitted a .vec) .Default = true ∧ derives (emitted a .slice) .Default = true ∧
    derives (emitted a .sliceMut) .Default = true :=
  -- `builtin` is `true` at these entries of the table
  ⟨trait_table a .vec .Default, trait_table a .slice .Default, trait_table a .sliceMut .Default⟩

/-- slice, reference and both pointer bundles are always `Copy` and `Clone` -/
theorem copy_views (a : Attrs) (K : Kind) (hK : K = .slice ∨ K = .ref ∨ K = .ptr ∨ K = .ptrMut) :
    derives (emitted a K) .Copy = true ∧ derives (emitted a K) .Clone = true := by
  rcases hK with rfl | rfl | rfl | rfl <;> exact ⟨trait_table a _ .Copy, trait_table a _ .Clone⟩

/-- with only `soa_derive` attributes: the table in terms of the request -/
theorem trait_table_requested (ds : List Directive) (a : Attrs) (h : process .empty ds = some a)
    (hno : ∀ K x, Directive.soaAttr K x ∉ ds) (K : Kind) (t : Tr) :
    derives (emitted a K) t = true ↔
      builtin K t = true ∨ (Requested ds t ∧ t ≠ .Default ∧ (K = .vec ∨ vecOnly t = false)) := by
  rw [trait_table, Bool.or_eq_true, derives_iff]
  constructor
  · rintro (hb | ⟨ts, hm, ht⟩)
    · exact .inl hb
    · rcases (lands ds a h K _).mp hm with h1 | ⟨u, hr, hd, he, hk⟩
      · exact absurd h1 (hno K _)
      · cases he
        cases List.mem_singleton.mp ht
        exact .inr ⟨hr, hd, hk⟩
  · rintro (hb | ⟨hr, hd, hk⟩)
    · exact .inl hb
    · exact .inr ⟨[t], (lands ds a h K _).mpr (.inr ⟨t, hr, hd, rfl, hk⟩), by simp⟩

theorem zipWith_cons_inj {α : Type} {xs xs' : List α} {ys ys' : List (List α)}
    (h1 : xs.length = ys.length) (h2 : xs'.length = ys'.length)
    (h : List.zipWith (· :: ·) xs ys = List.zipWith (· :: ·) xs' ys') : xs = xs' ∧ ys = ys' := by
  rw [← List.map_uncurry_zip_eq_zipWith, ← List.map_uncurry_zip_eq_zipWith] at h
  have hz := (List.map_inj_right fun p q hpq => Prod.ext (List.cons.inj hpq).1 (List.cons.inj hpq).2).mp h
  have := congrArg List.unzip hz
  rwa [List.unzip_zip h1, List.unzip_zip h2, Prod.mk.injEq] at this

/-- **derived equality is element-wise**: two lockstep containers of one shape are equal field
    by field (what `#[derive(PartialEq)]` on the generated vector / views compares) iff
    their rows are equal (what `Vec<T> == Vec<T>` compares) -/
theorem rows_inj (n : Nat) : ∀ (c d : Cols), c.lock n → d.lock n → c.same d → c.rows = d.rows → c = d
  | .leaf xs, .leaf ys, _, _, _, h => by
    rw [(List.map_inj_right fun _ _ => Elem.leaf.inj).mp h]
  | .nest fs, .nest gs, hc, hd, hs, h => by
    rw [go fs gs (lock_nest.mp hc).2 (lock_nest.mp hd).2 hs ((List.map_inj_right fun _ _ => Elem.nest.inj).mp h)]
where go : ∀ (fs gs : List Cols), (∀ c ∈ fs, c.lock n) → (∀ c ∈ gs, c.lock n) → Cols.same.sameL fs gs →
    Cols.rows.rowsL fs = Cols.rows.rowsL gs → fs = gs
  | [], [], _, _, _, _ => rfl
  | [c], [d], hc, hd, hs, h => by
    rw [rows_inj n c d (hc c (.head _)) (hd d (.head _)) hs.1
      ((List.map_inj_right fun _ _ => List.singleton_inj.mp).mp h)]
  | c :: c' :: cs, d :: d' :: ds, hc, hd, hs, h => by
    have ⟨hc0, hc'⟩ := List.forall_mem_cons.mp hc
    have ⟨hd0, hd'⟩ := List.forall_mem_cons.mp hd
    -- the first field's rows and the rows of the others are equally long, so the zip can be undone
    have hr := zipWith_cons_inj
      ((rows_len n c hc0).trans (rows_len.rowsL_len n _ (List.cons_ne_nil _ _) hc').symm)
      ((rows_len n d hd0).trans (rows_len.rowsL_len n _ (List.cons_ne_nil _ _) hd').symm) h
    rw [rows_inj n c d hc0 hd0 hs.1 hr.1, go _ _ hc' hd' hs.2 hr.2]

theorem eq_elementwise (n : Nat) (c d : Cols) (hc : c.lock n) (hd : d.lock n) (hs : c.same d) :
    c = d ↔ c.rows = d.rows :=
  ⟨fun h => by rw [h], rows_inj n c d hc hd hs⟩

example : process .empty [.soaDerive [.Debug, .Clone, .Default], .soaAttr .sliceMut (.other 3)] =
    some ⟨true, [.derive [.Debug], .derive [.Clone]], [.derive [.Debug]], [.derive [.Debug], .other 3],
      [.derive [.Debug]], [.derive [.Debug]], [.derive [.Debug]], [.derive [.Debug]]⟩ := by decide +kernel
example : process .empty [.soaDerive [.Debug, .Copy]] = none := rfl

end Soa.C14
