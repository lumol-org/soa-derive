import Soa.Extracted.Skel
import Soa.Lemmas.Positions
import Soa.Model.Pinned
import Soa.Extracted.Bodies
/-!
# C06 — iterators match std slice iterators under any consumption pattern

The generated iterators zip one `slice::Iter`/`IterMut` per field (a nested field
contributes its own generated iterator); on a lockstep container every component holds the
same window of positions not yet yielded.  `next` takes the front position in every
field, `next_back` the back position (`View.next`, `View.nextBack`).

For every window, and every finite sequence of front/back steps — including steps past
exhaustion: the positions yielded are those of double-ended iteration over the list of
positions (`run_positions`), hence the elements yielded are those std's slice iterator
yields on the rows (`run_rows`: same function, mapped); the exact length and the size hint
after every step are the number of positions left (`len_after`); no position is yielded
twice, so a mutable iterator hands out each element at most once (`yields_nodup`), and
after `l` successful steps every position of the window has been yielded exactly once
(`yields_all`).
-/
namespace Soa.C06
open View

inductive Step | F | B
  deriving DecidableEq, Repr

/-- one step of the generated iterator on its window -/
def stepW (w : Win) : Step → Option Nat × Win
  | .F => View.next w
  | .B => View.nextBack w

/-- run a step sequence: what each step yields, and the final window -/
def runW : List Step → Win → List (Option Nat) × Win
  | [], w => ([], w)
  | s :: ss, w => let r := stepW w s; let rr := runW ss r.2; (r.1 :: rr.1, rr.2)

/-- double-ended iteration over a list (what `std::slice::Iter` does on `&[T]`) -/
def stepL {α : Type} (xs : List α) : Step → Option α × List α
  | .F => (xs.head?, xs.tail)
  | .B => (xs.getLast?, xs.dropLast)

def runL {α : Type} : List Step → List α → List (Option α) × List α
  | [], xs => ([], xs)
  | s :: ss, xs => let r := stepL xs s; let rr := runL ss r.2; (r.1 :: rr.1, rr.2)

theorem positions_nil (w : Win) (h : w.l = 0) : w.positions = [] := by simp [Win.positions, h]

theorem next_zero (s : Nat) : View.next ⟨s, 0⟩ = (none, ⟨s, 0⟩) := rfl
theorem next_succ (s l : Nat) : View.next ⟨s, l + 1⟩ = (some s, ⟨s + 1, l⟩) := rfl
theorem nextBack_zero (s : Nat) : View.nextBack ⟨s, 0⟩ = (none, ⟨s, 0⟩) := rfl
theorem nextBack_succ (s l : Nat) : View.nextBack ⟨s, l + 1⟩ = (some (s + l), ⟨s, l⟩) := rfl

theorem step_positions (w : Win) (s : Step) :
    (stepW w s).1 = (stepL w.positions s).1 ∧ (stepW w s).2.positions = (stepL w.positions s).2 := by
  obtain ⟨a, _ | l⟩ := w
  · cases s <;> exact ⟨rfl, rfl⟩
  · cases s
    · exact ⟨rfl, rfl⟩
    · -- the last of the positions `a, …, a + l` is `a + l`
      simp [stepW, stepL, nextBack_succ, Win.positions, List.range'_concat]

/-- **yields = double-ended iteration over the positions**, for every step sequence -/
theorem run_positions : ∀ (ss : List Step) (w : Win),
    (runW ss w).1 = (runL ss w.positions).1 ∧ (runW ss w).2.positions = (runL ss w.positions).2
  | [], w => ⟨rfl, rfl⟩
  | s :: ss, w => by
    have h := step_positions w s
    have ih := run_positions ss (stepW w s).2
    rw [h.2] at ih
    exact ⟨List.cons_eq_cons.mpr ⟨h.1, ih.1⟩, ih.2⟩

theorem stepL_map {α β : Type} (f : α → β) (xs : List α) (s : Step) :
    (stepL (xs.map f) s).1 = (stepL xs s).1.map f ∧ (stepL (xs.map f) s).2 = (stepL xs s).2.map f := by
  cases s <;> simp [stepL, List.head?_map, List.getLast?_map, List.map_dropLast]

/-- iteration commutes with reading: the elements yielded are the rows at the yielded
    positions, i.e. what std's iterator yields on the slice of rows -/
theorem runL_map {α β : Type} (f : α → β) : ∀ (ss : List Step) (xs : List α),
    (runL ss (xs.map f)).1 = (runL ss xs).1.map (Option.map f) ∧ (runL ss (xs.map f)).2 = (runL ss xs).2.map f
  | [], xs => ⟨rfl, rfl⟩
  | s :: ss, xs => by
    have h := stepL_map f xs s
    have ih := runL_map f ss (stepL xs s).2
    rw [← h.2] at ih
    exact ⟨List.cons_eq_cons.mpr ⟨h.1, ih.1⟩, ih.2⟩

/-- **elements**: for a window inside the parent, the rows at the yielded positions are
    exactly what double-ended iteration over the visible rows yields -/
theorem run_rows {α : Type} (R : List α) (d : α) (w : Win) (hw : w.s + w.l ≤ R.length) (ss : List Step) :
    (runW ss w).1.map (Option.map (R.getD · d)) = (runL ss ((R.drop w.s).take w.l)).1 := by
  rw [(run_positions ss w).1, ← (runL_map (R.getD · d) ss w.positions).1, Win.positions, map_getD_range' R d _ _ hw]

theorem stepL_perm {α : Type} (xs : List α) (s : Step) : ((stepL xs s).1.toList ++ (stepL xs s).2).Perm xs := by
  cases s with
  | F => cases xs <;> exact .refl _
  | B =>
    cases h : xs.getLast? with
    | none => simp [stepL, List.getLast?_eq_none_iff.mp h]
    | some a =>
      obtain ⟨ys, rfl⟩ := List.getLast?_eq_some_iff.mp h
      rw [stepL, List.getLast?_concat, List.dropLast_concat]
      exact List.perm_append_comm

/-- **nothing lost, nothing twice**: what the steps yielded, together with what is left, is the list they started on -/
theorem runL_perm {α : Type} : ∀ (ss : List Step) (xs : List α), ((runL ss xs).1.filterMap id ++ (runL ss xs).2).Perm xs
  | [], xs => .refl xs
  | s :: ss, xs => by
    have h : ((runL (s :: ss) xs).1.filterMap id) = (stepL xs s).1.toList ++ (runL ss (stepL xs s).2).1.filterMap id := by
      rw [runL]; cases (stepL xs s).1 <;> rfl
    rw [h, List.append_assoc]
    exact ((runL_perm ss (stepL xs s).2).append_left _).trans (stepL_perm xs s)

theorem runW_perm (ss : List Step) (w : Win) : ((runW ss w).1.filterMap id ++ (runW ss w).2.positions).Perm w.positions := by
  rw [(run_positions ss w).1, (run_positions ss w).2]
  exact runL_perm ss w.positions

/-- **exact length / size hint**: after the steps the window holds the positions not yet
    yielded; its length is what `len()` and `size_hint()` report -/
theorem len_after : ∀ (ss : List Step) (w : Win),
    (runW ss w).2.l = w.l - ((runW ss w).1.filterMap id).length := by
  intro ss w
  have h := (runW_perm ss w).length_eq
  simp only [List.length_append, Win.positions, List.length_range'] at h
  exact Nat.eq_sub_of_add_eq' h

/-- **each element at most once** (mutable iteration never hands out an element twice) -/
theorem yields_nodup : ∀ (ss : List Step) (w : Win),
    ((runW ss w).1.filterMap id).Nodup ∧ ∀ p ∈ (runW ss w).1.filterMap id, p ∈ w.positions :=
  fun ss w => ⟨(List.nodup_append.mp ((runW_perm ss w).nodup_iff.mpr List.nodup_range')).1,
    fun _ hp => (runW_perm ss w).subset (List.mem_append_left _ hp)⟩

/-- **each element exactly once**: once the window is exhausted, every position of it has
    been yielded exactly once (in front order from the front, reverse order from the back) -/
theorem yields_all (ss : List Step) (w : Win) (h : (runW ss w).2.l = 0) :
    ((runW ss w).1.filterMap id).Perm w.positions := by
  have hp := runW_perm ss w
  rwa [positions_nil _ h, List.append_nil] at hp

example : (runW [.F, .B, .B, .F, .F] ⟨2, 3⟩).1 = [some 2, some 4, some 3, none, none] := rfl

/-! ## adaptor-style consumption: `nth`, `nth_back`, `last`, `count` are iterated `next` / `next_back`

std's provided methods (the generated iterators do not override them) are defined by repeated stepping; so the
"any consumption pattern" of the property reduces to the front/back interleavings above. -/

def nextN : Nat → Win → Win
  | 0, w => w
  | k + 1, w => nextN k (View.next w).2

def nextBackN : Nat → Win → Win
  | 0, w => w
  | k + 1, w => nextBackN k (View.nextBack w).2

/-- `nth(k)` = `k` times `next()`, then `next()`: along the recursion of `nextN`, for all windows at once -/
theorem nth_is_iterated_next (w : Win) (k : Nat) : View.nth w k = View.next (nextN k w) := by
  induction k generalizing w with
  | zero => obtain ⟨s, _ | l⟩ := w <;> rfl
  | succ k ih =>
    obtain ⟨s, _ | l⟩ := w
    · rw [nextN, next_zero, ← ih]; simp [View.nth]
    · rw [nextN, next_succ, ← ih]
      simp only [View.nth, Nat.add_lt_add_iff_right, Nat.add_assoc, Nat.add_comm 1, Nat.add_sub_add_right]

/-- `nth_back(k)` = `k` times `next_back()`, then `next_back()` -/
theorem nthBack_is_iterated_nextBack (w : Win) (k : Nat) : View.nthBack w k = View.nextBack (nextBackN k w) := by
  induction k generalizing w with
  | zero => obtain ⟨s, _ | l⟩ := w <;> rfl
  | succ k ih =>
    obtain ⟨s, _ | l⟩ := w
    · rw [nextBackN, nextBack_zero, ← ih]; simp [View.nthBack]
    · rw [nextBackN, nextBack_succ, ← ih]
      simp only [View.nthBack, Nat.add_lt_add_iff_right, Nat.add_sub_cancel, Nat.sub_sub, Nat.add_comm 1,
        ← Nat.add_assoc]

/-- `last()` yields what the final `next_back()` would and exhausts the iterator; `count()` is the remaining length -/
theorem last_is_nextBack (w : Win) : (View.lastOf w).1 = (View.nextBack w).1 ∧ (View.lastOf w).2.l = 0 := by
  obtain ⟨s, _ | l⟩ := w <;> exact ⟨rfl, rfl⟩

/-! ## internal iteration: `fold` / `for_each` is `next` until `None`, `rfold` / `rev().for_each` is `next_back` until `None` -/

/-- what std's default `fold` visits: `next()` until it answers `None` (fuel = the remaining length suffices) -/
def foldVisits : Nat → Win → List Nat
  | 0, _ => []
  | f + 1, w => match View.next w with
    | (some p, w') => p :: foldVisits f w'
    | (none, _) => []

/-- what std's default `rfold` visits -/
def rfoldVisits : Nat → Win → List Nat
  | 0, _ => []
  | f + 1, w => match View.nextBack w with
    | (some p, w') => p :: rfoldVisits f w'
    | (none, _) => []

/-- `fold` visits the remaining positions front to back, each once -/
theorem fold_visits : ∀ (f : Nat) (w : Win), w.l ≤ f → foldVisits f w = List.range' w.s w.l
  | 0, ⟨_, 0⟩, _ => rfl
  | _ + 1, ⟨_, 0⟩, _ => rfl
  | f + 1, ⟨s, l + 1⟩, h => by
    rw [foldVisits, next_succ]
    exact congrArg (s :: ·) (fold_visits f ⟨s + 1, l⟩ (Nat.le_of_succ_le_succ h))

/-- `rfold` (what `rev().for_each(..)`, `rev().fold(..)`, `rev().last()` run) visits them back to front -/
theorem rfold_visits : ∀ (f : Nat) (w : Win), w.l ≤ f → rfoldVisits f w = (List.range' w.s w.l).reverse
  | 0, ⟨_, 0⟩, _ => rfl
  | _ + 1, ⟨_, 0⟩, _ => rfl
  | f + 1, ⟨s, l + 1⟩, h => by
    rw [rfoldVisits, nextBack_succ, List.range'_concat, List.reverse_append, Nat.one_mul]
    exact congrArg (_ :: ·) (rfold_visits f ⟨s, l⟩ (Nat.le_of_succ_le_succ h))

/-- the generated iterators implement `next`, `size_hint`, `next_back` and `len` and **nothing else** of the iterator
    traits: every other method (`nth`, `nth_back`, `fold`, `rfold`, `last`, `count`, …) is std's default, defined from
    these — which is what `nth_is_iterated_next`, `fold_visits`, `rfold_visits` … describe.  Read from the templates the
    translator recovered from /repo on this run: an override added to either iterator makes this false. -/
theorem iterator_methods :
    ((Soa.Extracted.skAll.filter (fun f => f.owner == "PIter<'a>")).map (fun f => (f.trait_, f.name))) =
      [("<Iterator>", "next"), ("<Iterator>", "size_hint"), ("<DoubleEndedIterator>", "next_back"), ("<ExactSizeIterator>", "len")] ∧
    ((Soa.Extracted.skAll.filter (fun f => f.owner == "PIterMut<'a>")).map (fun f => (f.trait_, f.name))) =
      [("<Iterator>", "next"), ("<Iterator>", "size_hint"), ("<DoubleEndedIterator>", "next_back"), ("<ExactSizeIterator>", "len")] := by
  decide +kernel

/-- **text pin**: the generated functions this property's hand-written model describes have, in
    /repo today, exactly the text the model was written from (`Soa/Model/Pinned.lean`) -/
theorem bodies_pinned : Soa.Extracted.bodies_C06 = Soa.Model.pinned_C06 := rfl

theorem bodies_pinned_nonempty : Soa.Model.pinned_C06.length ≥ 4 := by decide

end Soa.C06
