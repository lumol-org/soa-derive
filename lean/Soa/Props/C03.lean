import Soa.Props.C01
import Soa.Lemmas.Transpose
/-!
# C03 — every field value is owned exactly once

One call at a time: what is in the container afterwards, what was handed back to the
caller and what was destroyed (including by unwinding after a panic) is, as a multiset,
exactly what was in the container before plus what was moved in.  With distinct ids this
says: never two owners, never destroyed twice, never lost (`exactly_once`).

`remove`, `swap_remove`, `pop`, `split_off`, `truncate`, `clear`, `append`, `retain` and the
destruction of the vector conserve ownership on **every** tree, also desynchronised ones
and also when a field's std call panics half-way.  `push`, `insert`, `replace` (the
`ptr::read` + `mem::forget` templates) need lockstep: C19 records what happens without it.
The push loop (`extend`, `FromIterator`) and the clone API built on it since /repo 72750cf
(`resize`, `extend_from_slice`; `Extend<Ref>` always was) conserve ownership too: the
container afterwards owns what it owned plus the elements pushed — the value moved in and
the clones created, each clone counted as a new value (`extend`, `resize_grow`,
`resize_shrink`, `extendFromSlice`).
-/
namespace Soa.C03

/-- field values handed back to the caller by a call -/
def held (o : Model.Out) : List Nat :=
  (o.ret.map Cols.flat).getD [] ++ (o.other.map Cols.flat).getD []

/-- exactly-once ownership across one call -/
def Conserves (c args : Cols) (o : Model.Out) : Prop :=
  (o.st.flat ++ held o ++ o.ev.drops).Perm (c.flat ++ args.flat)

/-- **every method that hands the result column back** conserves ownership, on any two trees,
    provided that after a panic it destroys exactly what the fields had handed out -/
theorem callRet_conserves {op : PolyOp} (hl : op.Linear) {c a : Cols} (ev : Cols → Ev)
    (hev : (c.apply2 op a).panicked = true → (ev (c.apply2 op a).out).drops = (c.apply2 op a).out.flat) :
    Conserves c a (Model.callRet op c a ev) := by
  have h := apply2_conserve op hl c a
  unfold Conserves held Model.callRet
  dsimp only
  split
  · next hp => simpa [hev hp] using h
  · simpa using h

/-- **every method that returns nothing** conserves ownership, provided the result column is what is left
    of the argument container plus what is destroyed -/
theorem callUnit_conserves {op : PolyOp} (hl : op.Linear) {c a : Cols} (ev : Bool → Ev)
    (other : Cols → Option Cols)
    (hout : (c.apply2 op a).out.flat =
      ((other (c.apply2 op a).out).map Cols.flat).getD [] ++ (ev (c.apply2 op a).panicked).drops) :
    Conserves c a (Model.callUnit op c a ev other) := by
  have h := apply2_conserve op hl c a
  rw [hout] at h
  simpa [Conserves, held, Model.callUnit] using h

theorem remove (c : Cols) (i : Nat) : Conserves c (c.const []) (Model.remove c i) :=
  callRet_conserves (remove_linear i) dropFields fun _ => rfl

theorem swapRemove (c : Cols) (i : Nat) : Conserves c (c.const []) (Model.swapRemove c i) :=
  callRet_conserves (swapRemove_linear i) dropFields fun _ => rfl

theorem splitOff (c : Cols) (i : Nat) : Conserves c (c.const []) (Model.splitOff c i) :=
  callRet_conserves (splitOff_linear i) dropFields fun _ => rfl

theorem pop (c : Cols) : Conserves c (c.const []) (Model.pop c) := by
  unfold Model.pop
  split
  · simp [Conserves, held, flat_const_nil]
  · exact callRet_conserves pop_linear dropFields fun _ => rfl

theorem append (c d : Cols) (hs : c.same d) : Conserves c d (Model.append c d) :=
  callUnit_conserves append_linear (fun _ => {}) some (List.append_nil _).symm

/-- the pop loop of `truncate` / `clear` / `Drop for Vec`, on any tree -/
theorem truncateLoop (dr : Bool) (k : Nat) : ∀ (fuel : Nat) (c : Cols) (ev : Ev),
    ((Model.truncateLoop dr k fuel c ev).st.flat ++ (Model.truncateLoop dr k fuel c ev).ev.drops).Perm
      (c.flat ++ ev.drops) ∧ (Model.truncateLoop dr k fuel c ev).ret = none ∧
      (Model.truncateLoop dr k fuel c ev).other = none
  | 0, c, ev => ⟨.refl _, rfl, rfl⟩
  | fuel + 1, c, ev => by
    rw [Model.truncateLoop]
    by_cases hk : c.firstLen > k
    · rw [if_pos hk]
      have hcons := apply2_conserve popOp pop_linear c (c.const [])
      rw [flat_const_nil, List.append_nil] at hcons
      -- what the fields hand out is destroyed, as an element or (after a panic) field by field
      have key := (perm_mid' _ ev.drops _).trans (hcons.append_right ev.drops)
      rcases pop_cases c with h | ⟨hp, h⟩ | ⟨hp, h⟩ <;> rw [h]
      · exact ⟨.refl _, rfl, rfl⟩
      · exact ⟨key, rfl, rfl⟩
      · have ih := truncateLoop dr k fuel (c.apply2 popOp (c.const [])).st
          (ev ++ dropWhole dr (c.apply2 popOp (c.const [])).out)
        exact ⟨ih.1.trans key, ih.2⟩
    · rw [if_neg hk]
      exact ⟨.refl _, rfl, rfl⟩

theorem truncate_flat (dr : Bool) (c : Cols) (k : Nat) : held (Model.truncate dr c k) = [] ∧
    ((Model.truncate dr c k).st.flat ++ (Model.truncate dr c k).ev.drops).Perm c.flat := by
  obtain ⟨h, hr, ho⟩ := truncateLoop dr k (c.firstLen - k + 1) c {}
  exact ⟨by simp [held, Model.truncate, hr, ho], h.trans (.of_eq (List.append_nil _))⟩

theorem truncate (dr : Bool) (c : Cols) (k : Nat) : Conserves c (c.const []) (Model.truncate dr c k) := by
  unfold Conserves
  rw [(truncate_flat dr c k).1, flat_const_nil, List.append_nil, List.append_nil]
  exact (truncate_flat dr c k).2

theorem clear (dr : Bool) (c : Cols) : Conserves c (c.const []) (Model.clear dr c) := truncate dr c 0

/-- destroying the vector destroys every field value it holds, once -/
theorem dropVec (dr : Bool) (c : Cols) : Conserves c (c.const []) (Model.dropVec dr c) := truncate dr c 0

theorem dropVec_all (dr : Bool) (c : Cols) (n : Nat) (hc : c.lock n) :
    (Model.dropVec dr c).ev.drops.Perm c.flat := by
  have h := (truncate_flat dr c 0).2
  obtain ⟨st, he, _, hl, _⟩ := truncate_eq dr 0 n c hc
  rw [he] at h
  rw [Model.dropVec, he]
  simpa [flat_nil_of_lock0 st (Nat.min_zero n ▸ hl)] using h

variable {c e : Cols} {n : Nat}

theorem push (hc : c.lock n) (he : e.lock 1) (hs : c.same e) : Conserves c e (Model.push c e) := by
  obtain ⟨_, _, _, _, hlo, _⟩ := apply2_total (op := appendOp) rfl c e n 1 hc he hs rfl
  exact callUnit_conserves append_linear (fun _ => {}) (fun _ => none) (flat_nil_of_lock0 _ hlo)

theorem insert (dr : Bool) (i : Nat) (hc : c.lock n) (he : e.lock 1) (hs : c.same e) :
    Conserves c e (Model.insert dr c i e) := by
  rw [Model.insert_eq dr i hc he hs]
  refine callUnit_conserves (insert_linear i) _ _ ?_
  -- in range the result column is empty and nothing is destroyed; out of range it is the element, which is destroyed
  by_cases hi : i ≤ n
  · obtain ⟨hp, _, _, _, hlo, _⟩ := apply2_total (op := insertOp i) rfl c e n 1 hc he hs (by simpa using hi)
    simp [hp, flat_nil_of_lock0 _ hlo]
  · obtain ⟨hp, _, hout⟩ := apply2_fail (insertOp i) n 1 (by simpa [insertOp] using hi) c e hc he hs
    simp [hp, hout, dropWhole]

theorem replace (dr : Bool) (i : Nat) (hc : c.lock n) (he : e.lock 1) (hs : c.same e) :
    Conserves c e (Model.replace dr c i e) :=
  Model.replace_eq dr i hc he hs ▸
    callRet_conserves (replace_linear i) _ fun hp => by rw [(apply2_panicked hc he hs hp).2]; rfl

/-- **the push loop** (`extend`, `FromIterator`): afterwards the container owns exactly what it
    owned plus the elements pushed; nothing is destroyed -/
theorem extend : ∀ (es : List Cols) (c : Cols) (n : Nat), c.lock n → (∀ e ∈ es, e.lock 1 ∧ c.same e) →
    (Model.extend c es).st.flat.Perm (c.flat ++ (es.map Cols.flat).flatten) ∧
    (Model.extend c es).ev.drops = [] ∧ held (Model.extend c es) = []
  | [], c, n, _, _ => by simp [Model.extend, held]
  | e :: es, c, n, hc, he => by
    obtain ⟨hx, _, hl, _, hes⟩ := extend_cons hc he
    have h1 : (Model.push c e).st.flat.Perm (c.flat ++ e.flat) := by
      simpa [Conserves, held, Model.push] using push hc (he e (.head _)).1 (he e (.head _)).2
    have ih := extend es _ _ hl hes
    rw [hx, List.map_cons, List.flatten_cons, ← List.append_assoc]
    exact ⟨ih.1.trans (h1.append_right _), ih.2⟩

/-- **growing `resize`**: the container owns what it owned, the value moved in and its
    `new_len - len - 1` clones — as many new values as clone events -/
theorem resize_grow (dr : Bool) (k : Nat) (hc : c.lock n) (he : e.lock 1) (hs : c.same e) (hk : k > n) :
    (Model.resize dr c k e).st.flat.Perm (c.flat ++ e.flat ++ (Model.resize dr c k e).ev.clones) ∧
    (Model.resize dr c k e).ev.drops = [] := by
  have h := extend (List.replicate (k - n) e) c n hc fun x hx => List.eq_of_mem_replicate hx ▸ ⟨he, hs⟩
  rw [Model.resize, firstLen_lock c n hc, if_pos hk]
  refine ⟨h.1.trans ?_, rfl⟩
  obtain ⟨m, hm⟩ := Nat.exists_eq_succ_of_ne_zero (Nat.sub_ne_zero_of_lt hk)
  rw [hm, List.replicate_succ]
  simp [List.append_assoc]

/-- **shrinking `resize`**: `truncate`, then the value is destroyed -/
theorem resize_shrink (dr : Bool) (k : Nat) (hc : c.lock n) (hk : k ≤ n) :
    Conserves c e (Model.resize dr c k e) := by
  unfold Conserves
  rw [Model.resize, firstLen_lock c n hc, if_neg (Nat.not_lt.mpr hk)]
  simpa [held, dropWhole, ← List.append_assoc] using (truncate_flat dr c k).2.append_right e.flat

/-- **`extend_from_slice`**: the container owns what it owned plus one clone of every value of the source -/
theorem extendFromSlice {d : Cols} {k : Nat} (hc : c.lock n) (hd : d.lock k) (hs : c.same d) :
    (Model.extendFromSlice c d).st.flat.Perm (c.flat ++ (Model.extendFromSlice c d).ev.clones) ∧
    (Model.extendFromSlice c d).ev.drops = [] := by
  have h := extend _ c n hc (rowCols_range hd hs)
  -- the values pushed are, row by row, the values of the source
  have hids : ((List.range k).map (Model.rowCols d)).map Cols.flat = d.rows.map Elem.ids := by
    apply List.ext_getElem (by simp [rows_len k d hd])
    intro i hi _
    obtain ⟨r, hr, he⟩ := rowAt_eq d k i hd (by simpa using hi)
    obtain ⟨_, rfl⟩ := List.getElem?_eq_some_iff.mp hr
    simp only [List.getElem_map, List.getElem_range]
    exact he
  unfold Model.extendFromSlice
  rw [firstLen_lock d k hd]
  refine ⟨h.1.trans (List.Perm.append_left _ ?_), rfl⟩
  rw [hids]
  exact (rows_ids_perm k d hd).trans (.of_eq (flat_eq_ids d).symm)

theorem retain_flat (dr : Bool) (c : Cols) (keep : Nat → Bool) (boom : Option Nat) (touch : Nat → Nat → Option (Nat × Nat)) :
    held (Model.retain dr c keep boom touch) = [] ∧
    ((Model.retain dr c keep boom touch).st.flat ++ (Model.retain dr c keep boom touch).ev.drops).Perm
      (c.flat ++ (Model.retain dr c keep boom touch).made) := by
  obtain ⟨mk, dk, hm, hd, hp⟩ := Lp.retainLoop_conserve keep boom touch c.firstLen 0 0 c [] {} []
  unfold Model.retain
  dsimp only
  generalize Model.retainLoop keep boom touch c.firstLen 0 0 c [] {} [] = r at hm hd hp
  obtain ⟨rc, rdel, rvis, rboom, rev, rmade⟩ := r
  subst hm hd
  by_cases hb : rboom = true
  · simp only [hb, ↓reduceIte]
    exact ⟨rfl, by simpa using hp⟩
  · by_cases hdel : rdel > 0
    · simp only [hb, hdel, ↓reduceIte]
      obtain ⟨hh, ht⟩ := truncate_flat dr rc (c.firstLen - rdel)
      -- t.st ++ (dk ++ t.drops) ~ t.st ++ t.drops ++ dk ~ r.c ++ dk ~ c ++ mk
      exact ⟨by simpa [held] using hh, by simpa using (perm_mid' _ dk _).trans ((ht.append_right dk).trans hp)⟩
    · simp only [hb, hdel, ↓reduceIte]
      exact ⟨rfl, by simpa using hp⟩

/-- **`retain` / `retain_mut`**, on every tree, for every sequence of answers of the callback, every
    call at which it panics (`boom`) and every write it makes to the element it is shown (`touch`;
    `retain_mut` only — a write destroys the old field value and stores one the callback created,
    `made`): afterwards the container and the destroyed values are, as a multiset, what the
    container held plus what the callback created. -/
theorem retain (dr : Bool) (c : Cols) (keep : Nat → Bool) (boom : Option Nat) (touch : Nat → Nat → Option (Nat × Nat)) :
    ((Model.retain dr c keep boom touch).st.flat ++ held (Model.retain dr c keep boom touch) ++
      (Model.retain dr c keep boom touch).ev.drops).Perm (c.flat ++ (Model.retain dr c keep boom touch).made) := by
  rw [(retain_flat dr c keep boom touch).1, List.append_nil]
  exact (retain_flat dr c keep boom touch).2

/-- with distinct ids: nothing has two owners, is destroyed twice, or is both returned and
    destroyed — the three lists on the left are pairwise disjoint and duplicate-free -/
theorem exactly_once {args : Cols} {o : Model.Out} (h : Conserves c args o)
    (hd : (c.flat ++ args.flat).Nodup) : (o.st.flat ++ held o ++ o.ev.drops).Nodup :=
  (List.Perm.nodup_iff h).mpr hd

example : Conserves C01.exC C01.exE (Model.insert false C01.exC 1 C01.exE) :=
  insert false 1 C01.exC_lock C01.exE_lock C01.exC_same
example : (C01.exC.flat ++ C01.exE.flat).Nodup := by decide +kernel
/- `retain_mut` on a 2-element, 4-leaf container: the first element is rejected, the callback overwrites leaf 0
   of the second one with a value it created (99): 16 and the rejected element are destroyed, 99 is stored -/
example : (Model.retain false C01.exC (fun i => i != 0) none (fun k _ => if k = 1 then some (0, 99) else none)).made = [99] ∧
    (Model.retain false C01.exC (fun i => i != 0) none (fun k _ => if k = 1 then some (0, 99) else none)).ev.drops = [16, 8, 9, 10, 11] ∧
    (Model.retain false C01.exC (fun i => i != 0) none (fun k _ => if k = 1 then some (0, 99) else none)).st.flat = [99, 17, 18, 19] := by
  decide +kernel

end Soa.C03
