import Soa.Extracted.Shape
/-!
# C13 — the derive is total and hygienic over struct shapes — **partial**

That rustc type-checks the generated code without warnings under the strict lint set is
outside any model built here: it is covered by the probe run (shape grammar sampled by seed
plus a corner corpus, compiled with the lint header of `example/`).  What is proved:

* `table_agrees`: on a corpus of declarations (named structs of 1…40 fields, visibilities,
  raw identifiers, nested fields; tuple / unit / empty structs; enums; unions; `Copy` in any
  position; well- and ill-formed `soa_attr`; several attributes in either order) the **real**
  `Input::new` + generators of /repo accept / panic exactly as `accept` says, with the
  diagnostic it says;
* `accept_iff`: code is generated **iff** the declaration is a struct with named fields, at
  least one field, no `Copy` request and only well-formed `soa_attr`s — and
  `unsupported_rejected`: enums, unions, tuple structs, unit structs and `Copy` requests all
  get a diagnostic, whatever else the declaration says;
* hygiene, over the binder / use events **extracted** from every generated function that
  binds field-named or generator-private locals.  One lemma carries it: telling more names
  apart never breaks a resolution (`resolves_mono`; `resolveBy_congr` is its symmetric form).
  With private binders in a hygiene context of their own (`private_binders_hygienic` — the
  extracted span constructor) an injective naming of the fields can at worst spell a field like
  a fixed local of the templates; every extracted function still resolves when *every* field
  collides with *every* fixed local (`table_mayAlias`, one kernel-checked pass over the table),
  so every injective naming is hygienic (`hygienic_of_mayAlias`: the "any identifier"
  statement).  `hygiene` and `fixed_collisions_harmless` are special cases;
* `api_complete`: the documented API is generated, with and without the cloning API.
-/
namespace Soa.C13
open Soa.Accept

/-- **translator tie**: the real derive accepts / rejects every declaration of the corpus as the model says -/
theorem table_agrees : Extracted.acceptTable.all (fun r => decide (accept r.1 = r.2)) = true := by decide +kernel

theorem firstBad_none_iff : ∀ ds : List Dir, firstBad ds = none ↔
    (∀ ts, Dir.traits ts ∈ ds → Tr.Copy ∉ ts) ∧ (∀ a, Dir.attr a ∈ ds → a = .okKind)
  | [] => by simp [firstBad]
  | .traits ts :: ds => by
    by_cases h : Tr.Copy ∈ ts <;> simp [firstBad, h, firstBad_none_iff ds]
  | .attr .okKind :: ds => by simp [firstBad, firstBad_none_iff ds]
  | .attr .badKind :: ds => by simp [firstBad]
  | .attr .badShape :: ds => by simp [firstBad]

/-- the three checks of `accept`, in the order it makes them -/
theorem accept_none (d : Decl) : accept d = none ↔
    (d.kind = .namedStruct ∨ d.kind = .unitStruct) ∧ 1 ≤ d.nFields ∧ firstBad d.dirs = none := by
  obtain ⟨k, n, ds⟩ := d
  cases k <;> cases hb : firstBad ds <;> by_cases hn : n = 0 <;> simp [accept, hb, hn, Nat.one_le_iff_ne_zero]

/-- **totality on the supported inputs and only there** -/
theorem accept_iff (d : Decl) :
    accept d = none ↔ d.kind = .namedStruct ∧ 1 ≤ d.nFields ∧
      (∀ ts, Dir.traits ts ∈ d.dirs → Tr.Copy ∉ ts) ∧ (∀ a, Dir.attr a ∈ d.dirs → a = .okKind) ∨
      -- (a unit struct has no fields; a declaration `⟨unitStruct, n+1, _⟩` does not exist)
      (d.kind = .unitStruct ∧ 1 ≤ d.nFields ∧ firstBad d.dirs = none) := by
  rw [← firstBad_none_iff, accept_none, or_and_right]

/-- **every unsupported input is rejected with a diagnostic**, whatever else it says -/
theorem unsupported_rejected (d : Decl) :
    (d.kind = .enum_ ∨ d.kind = .union_ → accept d = some .notStruct) ∧
    (d.kind = .tupleStruct → (accept d).isSome = true) ∧
    (d.nFields = 0 → (accept d).isSome = true) ∧
    ((∃ ts, Dir.traits ts ∈ d.dirs ∧ Tr.Copy ∈ ts) → (accept d).isSome = true) := by
  simp only [← Option.ne_none_iff_isSome, ne_eq, accept_none]
  refine ⟨?_, fun h => ?_, fun h => ?_, fun ⟨ts, hm, hc⟩ ⟨_, _, hb⟩ => ?_⟩
  · rintro (h | h) <;> simp [accept, h]
  · simp [h]
  · simp [h]
  · exact ((firstBad_none_iff d.dirs).mp hb).1 ts hm hc

/-- `resolveBy` for an arbitrary way `R` of telling which binders a use may pick -/
def resolves (R : Name → Name → Bool) : List Name → List Ev → Bool
  | _, [] => true
  | env, .bind n :: es => resolves R (n :: env) es
  | env, .use n :: es =>
    (match env.find? (R · n) with
     | some m => decide (m = n)
     | none => true) && resolves R env es

theorem resolveBy_eq {κ : Type} [DecidableEq κ] (k : Name → κ) : ∀ (evs : List Ev) (env : List Name),
    resolveBy k env evs = resolves (fun m n => decide (k m = k n)) env evs
  | [], _ => rfl
  | .bind n :: es, env => by simp only [resolveBy, resolves, resolveBy_eq k es]
  | .use n :: es, env => by
    simp only [resolveBy, resolves, lookupBy, resolveBy_eq k es]
    rfl   -- what is left differs in the matcher only: each definition has its own copy

/-- if the first candidate under `q` is `n`, so is the first under a `p` with fewer candidates -/
theorem find_mono {p q : Name → Bool} (n : Name) (hn : p n = true) : ∀ (l : List Name),
    (∀ x ∈ l, p x = true → q x = true) →
    (match l.find? q with | some m => decide (m = n) | none => true) = true →
    (match l.find? p with | some m => decide (m = n) | none => true) = true
  | [], _, _ => rfl
  | x :: l, h, hq => by
    have ⟨hx, hl⟩ := List.forall_mem_cons.mp h
    simp only [List.find?_cons] at hq ⊢
    cases hqx : q x with
    | true =>
      rw [hqx] at hq
      cases of_decide_eq_true hq   -- `x` is the first candidate under `q`, so `x = n`
      rw [hn]
      exact decide_eq_true rfl
    | false =>
      have hpx : p x = false := Bool.eq_false_iff.mpr fun hp => Bool.false_ne_true (hqx.symm.trans (hx hp))
      simp only [hqx, hpx] at hq ⊢
      exact find_mono n hn l hl hq

/-- **telling more names apart never breaks a resolution** -/
theorem resolves_mono (R R' : Name → Name → Bool) (S : List Name) (hR : ∀ a, R a a = true)
    (h : ∀ a ∈ S, ∀ b ∈ S, R a b = true → R' a b = true) :
    ∀ (evs : List Ev) (env : List Name), (∀ n ∈ env, n ∈ S) → (∀ e ∈ evs, e.name ∈ S) →
      resolves R' env evs = true → resolves R env evs = true
  | [], _, _, _, _ => rfl
  | .bind n :: es, env, he, hs, hr =>
    have ⟨hn, hs'⟩ := List.forall_mem_cons.mp hs
    resolves_mono R R' S hR h es (n :: env) (List.forall_mem_cons.mpr ⟨hn, he⟩) hs' hr
  | .use n :: es, env, he, hs, hr => by
    have ⟨hn, hs'⟩ := List.forall_mem_cons.mp hs
    simp only [resolves, Bool.and_eq_true] at hr ⊢
    exact ⟨find_mono (p := (R · n)) (q := (R' · n)) n (hR n) env (fun m hm => h m (he m hm) n hn) hr.1,
      resolves_mono R R' S hR h es env he hs' hr.2⟩

/-- resolution only depends on which names have equal keys -/
theorem resolveBy_congr {κ₁ κ₂ : Type} [DecidableEq κ₁] [DecidableEq κ₂] (k₁ : Name → κ₁) (k₂ : Name → κ₂)
    (S : List Name) (h : ∀ a ∈ S, ∀ b ∈ S, (k₁ a = k₁ b ↔ k₂ a = k₂ b)) :
    ∀ (evs : List Ev) (env : List Name), (∀ n ∈ env, n ∈ S) → (∀ e ∈ evs, e.name ∈ S) →
      resolveBy k₁ env evs = resolveBy k₂ env evs := by
  intro evs env he hs
  rw [Bool.eq_iff_iff, resolveBy_eq, resolveBy_eq]
  constructor <;> refine resolves_mono _ _ S (by simp) (fun a ha b hb => ?_) evs env he hs
  · simpa using (h a ha b hb).mpr
  · simpa using (h a ha b hb).mp

def names (evs : List Ev) : List Name := evs.map Ev.name

/-- with private binders in a hygiene context of their own, the names an injective naming of the
    fields can spell alike: a field and a fixed local of the templates -/
def mayAlias : Name → Name → Bool
  | .field _, .fixed _ | .fixed _, .field _ => true
  | a, b => a == b

/-- **every injective naming of the fields is hygienic** in a function whose uses still resolve
    when every field is taken to collide with every fixed local -/
theorem hygienic_of_mayAlias (ν : Nat → String) (evs : List Ev)
    (hinj : ∀ i j, Name.field i ∈ names evs → Name.field j ∈ names evs → ν i = ν j → i = j)
    (h : resolves mayAlias [] evs = true) : hygienic true ν evs = true := by
  rw [hygienic, resolveBy_eq]
  refine resolves_mono _ _ (names evs) (by simp) (fun a ha b hb => ?_) evs [] (by simp)
    (fun _ he => List.mem_map_of_mem he) h
  -- names with equal keys: the same name, a field and a fixed local (`mayAlias` by definition), or two fields with one spelling
  cases a <;> cases b <;> simp [key, mayAlias]
  exact hinj _ _ ha hb

/-- are the generator's private binders created in their own hygiene context? (extracted) -/
def privHygienic : Bool := Extracted.privateSpans.all (fun p => p.2.2 == "mixed_site")

/-- how the generator builds its private binder names today -/
theorem private_binders_hygienic : privHygienic = true := by decide +kernel

/-- on the extracted table: every use resolves even if every field collides with every fixed local;
    the schematic struct has three fields -/
theorem table_mayAlias : Extracted.binderFns.all (fun f => resolves mayAlias [] f.2 &&
    (names f.2).all (fun n => match n with | .field i => i < 3 | _ => true)) = true := by
  decide +kernel

/-- **hygiene of every extracted function for every admissible naming of the fields** -/
theorem hygiene (ν : Nat → String) (f : String × List Ev) (hf : f ∈ Extracted.binderFns)
    (hinj : ∀ i j, ν i = ν j → i = j) (havoid : ∀ i, ν i ∉ reservedOf privHygienic f.2) :
    hygienic privHygienic ν f.2 = true := by
  have h := List.all_eq_true.mp table_mayAlias f hf
  rw [private_binders_hygienic]
  exact hygienic_of_mayAlias ν f.2 (fun i j _ _ => hinj i j) (Bool.and_eq_true_iff.mp h).1

/-- fresh field names, different from every string of the generator -/
def fresh (i : Nat) : String := "§" ++ toString i

/-- all ways of naming the three schematic fields after fixed locals of the function (or freshly) -/
def assignments (evs : List Ev) : List (List String) :=
  let pool := (reservedOf true evs).eraseDups
  let opts := fun (i : Nat) => fresh i :: pool
  (opts 0).flatMap (fun a => (opts 1).flatMap (fun b => (opts 2).map (fun c => [a, b, c])))

theorem nodup3 (a b c : String) (h : [a, b, c].eraseDups.length = 3) : [a, b, c].Nodup := by
  -- a duplicate is erased unless all three comparisons fail
  cases hba : b == a <;> cases hca : c == a <;> cases hcb : c == b <;>
    simp [List.eraseDups_cons, hba, hca, hcb] at h
  simp only [beq_eq_false_iff_ne] at hba hca hcb
  simp [hba.symm, hca.symm, hcb.symm]

/-- **a field named like a fixed local of the templates is harmless**: for every extracted
    function and every injective assignment of fixed-local names (or fresh names) to the
    three schematic fields, every use still resolves to its own binder -/
theorem fixed_collisions_harmless :
    Extracted.binderFns.all (fun f => (assignments f.2).all (fun ν =>
      !(ν.eraseDups.length == 3) || hygienic true (fun i => ν.getD i "") f.2)) = true := by
  simp only [List.all_eq_true, Bool.or_eq_true, Bool.not_eq_true', beq_eq_false_iff_ne, ne_eq]
  intro f hf ν hν
  have ht := List.all_eq_true.mp table_mayAlias f hf
  simp only [Bool.and_eq_true, List.all_eq_true] at ht
  by_cases h3 : ν.eraseDups.length = 3
  · refine .inr (hygienic_of_mayAlias (fun i => ν.getD i "") f.2 (fun i j hi hj hij => ?_) ht.1)
    simp only [assignments, List.mem_flatMap, List.mem_map] at hν
    obtain ⟨a, -, b, -, c, -, rfl⟩ := hν
    exact (List.getD_inj (of_decide_eq_true (ht.2 _ hi)) (of_decide_eq_true (ht.2 _ hj)) (nodup3 a b c h3)).mp hij
  · exact .inl h3

/-- the documented API (owner type of the schematic struct `P`, function): the `Vec<T>` / slice
    mirror, the views, references, pointers and iterators -/
def documentedApi : List (String × String) := [
  ("PVec", "new"), ("PVec", "with_capacity"), ("PVec", "capacity"), ("PVec", "reserve"), ("PVec", "reserve_exact"),
  ("PVec", "shrink_to_fit"), ("PVec", "truncate"), ("PVec", "push"), ("PVec", "len"), ("PVec", "is_empty"),
  ("PVec", "swap_remove"), ("PVec", "insert"), ("PVec", "replace"), ("PVec", "remove"), ("PVec", "pop"),
  ("PVec", "append"), ("PVec", "clear"), ("PVec", "split_off"), ("PVec", "as_slice"), ("PVec", "as_mut_slice"),
  ("PVec", "slice"), ("PVec", "slice_mut"), ("PVec", "retain"), ("PVec", "retain_mut"), ("PVec", "get"), ("PVec", "get_mut"),
  ("PVec", "index"), ("PVec", "index_mut"), ("PVec", "as_ptr"), ("PVec", "as_mut_ptr"), ("PVec", "iter"), ("PVec", "iter_mut"),
  ("PVec", "get_unchecked"), ("PVec", "get_unchecked_mut"), ("PVec", "from_raw_parts"),
  ("P", "as_ref"), ("P", "as_mut"),
  ("PRef<'a>", "to_owned"), ("PRef<'a>", "as_ptr"), ("PRefMut<'a>", "to_owned"), ("PRefMut<'a>", "replace"),
  ("PRefMut<'a>", "as_ptr"), ("PRefMut<'a>", "as_mut_ptr"),
  ("PPtr", "as_mut_ptr"), ("PPtr", "is_null"), ("PPtr", "as_ref"), ("PPtr", "offset"), ("PPtr", "wrapping_offset"),
  ("PPtr", "add"), ("PPtr", "sub"), ("PPtr", "wrapping_add"), ("PPtr", "wrapping_sub"), ("PPtr", "read"),
  ("PPtr", "read_volatile"), ("PPtr", "read_unaligned"),
  ("PPtrMut", "as_ptr"), ("PPtrMut", "is_null"), ("PPtrMut", "as_ref"), ("PPtrMut", "as_mut"), ("PPtrMut", "offset"),
  ("PPtrMut", "wrapping_offset"), ("PPtrMut", "add"), ("PPtrMut", "sub"), ("PPtrMut", "wrapping_add"), ("PPtrMut", "wrapping_sub"),
  ("PPtrMut", "read"), ("PPtrMut", "read_volatile"), ("PPtrMut", "read_unaligned"), ("PPtrMut", "write"),
  ("PPtrMut", "write_volatile"), ("PPtrMut", "write_unaligned"),
  ("PSlice<'a>", "len"), ("PSlice<'a>", "is_empty"), ("PSlice<'a>", "first"), ("PSlice<'a>", "split_first"), ("PSlice<'a>", "last"),
  ("PSlice<'a>", "split_last"), ("PSlice<'a>", "split_at"), ("PSlice<'a>", "get"), ("PSlice<'a>", "index"), ("PSlice<'a>", "reborrow"),
  ("PSlice<'a>", "as_ptr"), ("PSlice<'a>", "iter"), ("PSlice<'a>", "into_iter"), ("PSlice<'a>", "get_unchecked"), ("PSlice<'a>", "from_raw_parts"),
  ("PSliceMut<'a>", "as_ref"), ("PSliceMut<'a>", "len"), ("PSliceMut<'a>", "is_empty"), ("PSliceMut<'a>", "first_mut"),
  ("PSliceMut<'a>", "split_first_mut"), ("PSliceMut<'a>", "last_mut"), ("PSliceMut<'a>", "split_last_mut"), ("PSliceMut<'a>", "split_at_mut"),
  ("PSliceMut<'a>", "swap"), ("PSliceMut<'a>", "get"), ("PSliceMut<'a>", "index"), ("PSliceMut<'a>", "get_mut"), ("PSliceMut<'a>", "index_mut"),
  ("PSliceMut<'a>", "as_slice"), ("PSliceMut<'a>", "reborrow"), ("PSliceMut<'a>", "as_ptr"), ("PSliceMut<'a>", "as_mut_ptr"),
  ("PSliceMut<'a>", "sort_by"), ("PSliceMut<'a>", "sort_by_key"), ("PSliceMut<'a>", "iter"), ("PSliceMut<'a>", "iter_mut"),
  ("PSliceMut<'a>", "into_iter"), ("PSliceMut<'a>", "get_unchecked"), ("PSliceMut<'a>", "get_unchecked_mut"), ("PSliceMut<'a>", "from_raw_parts_mut"),
  ("PIter<'a>", "next"), ("PIter<'a>", "next_back"), ("PIter<'a>", "size_hint"), ("PIter<'a>", "len"),
  ("PIterMut<'a>", "next"), ("PIterMut<'a>", "next_back"), ("PIterMut<'a>", "size_hint"), ("PIterMut<'a>", "len"),
  ("PVec", "from_iter"), ("PVec", "extend"), ("PVec", "drop")]

/-- only with `#[soa_derive(Clone)]` -/
def cloneApi : List (String × String) := [("PVec", "resize"), ("PVec", "extend_from_slice"), ("PSlice<'a>", "to_vec"), ("PSliceMut<'a>", "to_vec")]

def has (api : List (String × String × String)) (p : String × String) : Bool := api.any (fun a => a.1 == p.1 && a.2.2 == p.2)

/-- **the documented API is generated**, with and without the cloning API; the cloning API only on request -/
theorem api_complete :
    documentedApi.all (has Extracted.apiNoClone) = true ∧ documentedApi.all (has Extracted.apiClone) = true ∧
    cloneApi.all (has Extracted.apiClone) = true ∧ cloneApi.all (fun p => !has Extracted.apiNoClone p) = true := by
  decide +kernel

/-- the trait layer is generated for the three container kinds -/
theorem trait_layer :
    (["::soa_derive::SoAVec<P>", "::soa_derive::SoASlice<P>", "::soa_derive::SoASliceMut<P>", "::soa_derive::SoAIter<'a>"].all
      (fun t => Extracted.apiNoClone.any (fun a => a.2.1 == t) || t == "::soa_derive::SoAIter<'a>")) = true := by
  decide +kernel

/-- with call-site private binders a field may capture one: the full-strength statement is false -/
example : hygienic false (fun i => ["x", "___soa_derive_private_slice_1_0", "z"].getD i "")
    [.bind (.field 0), .bind (.priv "___soa_derive_private_slice_1" 0), .bind (.field 1), .bind (.priv "___soa_derive_private_slice_1" 1),
     .use (.field 0), .use (.field 1), .use (.priv "___soa_derive_private_slice_1" 0)] = false := by decide +kernel
/-- with hygienic private binders the same naming is fine -/
example : hygienic true (fun i => ["x", "___soa_derive_private_slice_1_0", "z"].getD i "")
    [.bind (.field 0), .bind (.priv "___soa_derive_private_slice_1" 0), .bind (.field 1), .bind (.priv "___soa_derive_private_slice_1" 1),
     .use (.field 0), .use (.field 1), .use (.priv "___soa_derive_private_slice_1" 0)] = true := by decide +kernel
example : accept ⟨.namedStruct, 3, [.traits [.Debug, .Clone], .attr .okKind]⟩ = none := rfl
example : accept ⟨.tupleStruct, 2, [.traits [.Debug]]⟩ = some .unnamedField := rfl

end Soa.C13
