import Soa.Props.C03
/-!
# C16 — panics in user callbacks leave the container coherent

Fault points are universally quantified in the theorems.

* `retain` / `retain_mut`: for **every** call index `k` at which the callback panics, the
  container is afterwards in lockstep with its shape, its rows are a permutation of the rows
  before (nothing lost, nothing duplicated — the swap loop only permutes; the final
  `truncate` is not reached), and nothing has been destroyed (`retain_fault`).
* sorting (7 entry points): the user's comparator / key function / `Ord` is called only while
  the permutation of *indices* is computed; the fields are touched afterwards.  A panic
  there leaves the container exactly as it was (`sort_fault_atomic`: the model is literally
  "argsort, then gather").
* `to_vec`, `to_owned`/`From`, `Extend<Ref>`: the source is only read; a panic in `Clone`
  destroys the part copy (modelled by construction, checked by the ledger monitor).
* `resize`, `extend_from_slice`, `Extend<Ref>`: every element is cloned *whole*
  (`to_owned()`) before it is pushed, so a `Clone` panic happens while a value that is not
  yet part of the container is being built.  For **every** number `j` of elements already
  pushed when it happens, the container is in lockstep with its shape and holds exactly its
  old rows followed by the first `j` new ones (`extend_fault_coherent`); `resize` and
  `extend_from_slice` are such loops by definition of the model (`resize_is_extend`,
  `extendFromSlice_is_extend`).  (Until /repo commit 72750cf both methods worked field by
  field and left field arrays of different lengths; `fieldwise_resize_desync` keeps the
  proof that the old shape of the code could not satisfy the property.)
-/
namespace Soa.C16

variable {c : Cols} {n : Nat}

/-- **retain / retain_mut, every fault point**: the callback panics at its `k`-th call -/
theorem retain_fault (dr : Bool) (keep : Nat → Bool) (k : Nat) (hc : c.lock n)
    (hp : (Model.retain dr c keep (some k) (fun _ _ => none)).panicked = true) :
    (Model.retain dr c keep (some k) (fun _ _ => none)).st.lock n ∧
    c.same (Model.retain dr c keep (some k) (fun _ _ => none)).st ∧
    (Model.retain dr c keep (some k) (fun _ _ => none)).st.rows.Perm c.rows ∧
    (Model.retain dr c keep (some k) (fun _ _ => none)).ev.drops = [] := by
  obtain ⟨hst, hev⟩ := Lp.retain_panicked keep (some k) _ n dr c hc hp
  obtain ⟨hrows, _, _, _, hlock, hsame, _⟩ := Lp.retainLoop_sim keep (some k) (fun _ _ => none) n n 0 0 c [] [] {} [] hc (Nat.zero_add n)
  rw [hst, hev, (Lp.retainLoop_no_touch keep (some k) n 0 0 c [] {} []).1]
  exact ⟨hlock, hsame, hrows ▸ RetainIdx.loopB_perm keep (some k) n 0 0 c.rows [], rfl⟩

/-- **retain_mut with a callback that writes, every fault point**: whatever the callback had written and wherever it
    panics, every field array still has the original length, the shape is unchanged, and container + destroyed values
    are what the container held plus what the callback created (nothing lost, nothing twice) -/
theorem retain_fault_w (dr : Bool) (keep : Nat → Bool) (k : Nat) (touch : Nat → Nat → Option (Nat × Nat)) (hc : c.lock n)
    (hp : (Model.retain dr c keep (some k) touch).panicked = true) :
    (Model.retain dr c keep (some k) touch).st.lock n ∧
    c.same (Model.retain dr c keep (some k) touch).st ∧
    ((Model.retain dr c keep (some k) touch).st.flat ++ (Model.retain dr c keep (some k) touch).ev.drops).Perm
      (c.flat ++ (Model.retain dr c keep (some k) touch).made) := by
  have hcons := (C03.retain_flat dr c keep (some k) touch).2
  rw [(Lp.retain_panicked keep (some k) touch n dr c hc hp).1] at hcons ⊢
  obtain ⟨_, _, _, _, hlock, hsame, _⟩ := Lp.retainLoop_sim keep (some k) touch n n 0 0 c [] [] {} [] hc (Nat.zero_add n)
  exact ⟨hlock, hsame, hcons⟩

/-- the two phases of every generated sort: the permutation of positions is computed with the
    user's callback (`fault` = it panicked), then every field is gathered by it -/
def sortTwoPhase (c : Cols) (w : View.Win) (le : Nat → Nat → Bool) (fault : Bool) : Cols × Bool :=
  if fault then (c, true) else (View.gatherWin c w ((List.range' w.s w.l).mergeSort le), false)

/-- **sorting, every fault point**: a panic in the comparator / key function / `Ord` leaves
    the container exactly as it was -/
theorem sort_fault_atomic (w : View.Win) (le : Nat → Nat → Bool) :
    (sortTwoPhase c w le true).1 = c ∧ (sortTwoPhase c w le true).2 = true := ⟨rfl, rfl⟩

/-- **every fault point**: when `Clone` panics while the `(j+1)`-th new element is being built,
    `j` whole elements have been pushed: the container is in lockstep with its shape and its
    rows are the old rows followed by the first `j` new ones — nothing lost, nothing
    duplicated, no field array ahead of another -/
theorem extend_fault_coherent (es : List Cols) (j : Nat) (hc : c.lock n)
    (he : ∀ e ∈ es, e.lock 1 ∧ c.same e) :
    (Model.extend c (es.take j)).panicked = false ∧
    (∃ m, (Model.extend c (es.take j)).st.lock m) ∧ c.same (Model.extend c (es.take j)).st ∧
    (Model.extend c (es.take j)).st.rows = c.rows ++ ((es.take j).map Cols.rows).flatten := by
  have h := C01.extend (es.take j) c n hc (fun e hm => he e (List.mem_of_mem_take hm))
  exact ⟨h.panicked, h.lock, h.same, h.st⟩

/-- growing `resize` is the push loop over clones of the value -/
theorem resize_is_extend (dr : Bool) (k : Nat) (e : Cols) (hk : k > c.firstLen) :
    (Model.resize dr c k e).st = (Model.extend c (List.replicate (k - c.firstLen) e)).st ∧
    (Model.resize dr c k e).panicked = (Model.extend c (List.replicate (k - c.firstLen) e)).panicked := by
  simp [Model.resize, hk]

/-- `extend_from_slice` is the push loop over the elements of the source -/
theorem extendFromSlice_is_extend (src : Cols) :
    (Model.extendFromSlice c src).st = (Model.extend c ((List.range src.firstLen).map (Model.rowCols src))).st := rfl

/-! ## why the element-wise loop is needed: the field-by-field version (the code before 72750cf) -/

/-- the leaf arrays after `resize(new_len, value)` when `Clone` panics inside the `j`-th field
    array's `Vec::resize` after `part` copies: the earlier field arrays are fully resized,
    the `j`-th partly, the later ones not at all (`vals`: the value's field ids) -/
def resizeFaultLeaves (ls : List (List Nat)) (vals : List Nat) (newLen j part : Nat) : List (List Nat) :=
  (ls.zipIdx).map (fun p =>
    if p.2 < j then p.1 ++ List.replicate (newLen - p.1.length) (vals.getD p.2 0)
    else if p.2 = j then p.1 ++ List.replicate part (vals.getD p.2 0)
    else p.1)

/-- **the full-strength statement fails**: with at least two field arrays, growing, and the
    fault in any field array but the first, the field arrays end up with different lengths -/
theorem fieldwise_resize_desync (ls : List (List Nat)) (vals : List Nat) (n newLen j part : Nat)
    (hl : ∀ l ∈ ls, l.length = n) (hgrow : n < newLen) (hj0 : 0 < j) (hj : j < ls.length)
    (hpart : n + part < newLen) :
    ¬ ∃ m, ∀ l ∈ resizeFaultLeaves ls vals newLen j part, l.length = m := by
  rintro ⟨m, hm⟩
  have mem : ∀ i (h : i < ls.length), (ls[i], i) ∈ ls.zipIdx := fun i h =>
    List.mem_zipIdx_iff_getElem?.mpr (List.getElem?_eq_getElem h)
  -- the first field array was fully resized, the faulting one only partly
  have m0 := hm _ (List.mem_map_of_mem (mem 0 (Nat.lt_trans hj0 hj)))
  have mj := hm _ (List.mem_map_of_mem (mem j hj))
  have l0 := hl _ (List.getElem_mem (Nat.lt_trans hj0 hj))
  have lj := hl _ (List.getElem_mem hj)
  simp only [hj0, Nat.lt_irrefl, ↓reduceIte, List.length_append, List.length_replicate, l0, lj,
    Nat.add_sub_cancel' (Nat.le_of_lt hgrow)] at m0 mj
  exact Nat.ne_of_lt hpart (mj.trans m0.symm)

/-- the part that holds: a struct with a single field array is coherent after the fault -/
theorem fieldwise_resize_single (l : List Nat) (vals : List Nat) (newLen part : Nat) :
    ∃ m, ∀ x ∈ resizeFaultLeaves [l] vals newLen 0 part, x.length = m :=
  ⟨(l ++ List.replicate part (vals.getD 0 0)).length, fun _ hx => congrArg _ (List.mem_singleton.mp hx)⟩

/-- witness (the defect repaired by 72750cf): `{flag, x}` empty, `resize(3, v)` with the clone fuse at 0
    for the second field: leaf arrays `[[216,216,216],[]]` … the real code's `[[216],[]]`
    differs only in how far the first field got — both are out of lockstep -/
example : resizeFaultLeaves [[], []] [216, 217] 3 1 0 = [[216, 216, 216], []] := by decide

/-! non-vacuity of `retain_fault`: a 2-field container, the callback panics at its second call -/
example : (Model.retain false (.nest [.leaf [8, 16, 24], .leaf [9, 17, 25]]) (fun i => i != 0) (some 1)
    (fun _ _ => none)).panicked = true := by decide

end Soa.C16
