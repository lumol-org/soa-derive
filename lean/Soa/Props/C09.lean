import Soa.Extracted.Generic
import Soa.Props.C04
/-!
# C09 — the generic trait layer equals the inherent API

Over the trait layer **as extracted from `/repo` on this run** (`Soa.Extracted.convs`,
`forwardKinds`, `providedKinds`, `assocKinds`):
* every generated trait method forwards to the inherent method of the same name with the
  same arguments, or is one of four recognised compositions (`forwarding`);
* the five `RangeBounds` conversions followed by the extracted range index select exactly
  what std indexing with the same `(Bound, Bound)` selects and panic exactly when std
  panics, for all bounds, lengths, shapes and both profiles (`bounds_agree`);
* the provided `first`/`last`(`_mut`) equal std's (`last_is_last`), `sort_by`/`sort_by_key`
  are argsort + `apply_index` (C07);
* the associated types name the generated types (`assoc_types`).
-/
namespace Soa.C09
open Soa.IdxIR Soa.Bounds Soa.Extracted

/-- every generated trait method is a same-name forward or a recognised composition -/
theorem forwarding : forwardKinds.length = 49 ∧ ∀ k ∈ forwardKinds, k ≠ .unknown := by decide +kernel

/-- the few that are not same-name forwards are exactly: `as_slice`/`as_mut_slice` of the
    slice types (= `reborrow`), `SoASliceMut::iter` (= `as_ref().into_iter()`), and the two
    `apply_index` (inverse permutation applied to every field; the vector's goes through its
    mutable slice) -/
theorem forwarding_exceptions :
    forwardKinds.filter (· ≠ .sameName) = [.reborrow, .asRefIntoIter, .reborrow, .applyInversePermutation, .viaMutSlice] := by
  decide +kernel

theorem provided_methods : providedKinds.length = 14 ∧ ∀ k ∈ providedKinds, k ≠ .unknown := by decide +kernel

/-- the associated types of the three traits name the generated types -/
theorem assoc_types : assocKinds.length = 20 ∧
    ∀ a ∈ assocKinds, (match a.1 with
      | .ref => .ref | .refMut => .refMut | .slice => .slice | .sliceMut => .sliceMut
      | .iter => .iter | .iterMut => .iterMut | .ptr => .ptr | .ptrMut => .ptrMut : GenType) = a.2 := by decide +kernel

/-- all five extracted conversions are the same, std-shaped conversion -/
theorem convs_shape : convs.length = 5 ∧ ∀ c ∈ convs,
    c.startInc = .val ∧ c.startExc = .checkedSucc ∧ c.startUnb = .zero ∧
    c.endInc = .checkedSucc ∧ c.endExc = .val ∧ c.endUnb = .len ∧
    c.call = C04.indexOf c.kind := by decide +kernel

/-- **C09, range bounds.** -/
theorem bounds_agree (c : Conv) (hc : c ∈ convs) (p : Prof) (n : Nat) (hn : n ≤ MAX) (sh : IdxIR.Shape) (hw : sh.wf)
    (sb eb : Bound) (heb : ∀ v, eb = .exc v → v ≤ MAX) :
    c.run p n sh sb eb = expectIndex (stdBounds n sb eb) := by
  obtain ⟨h1, h2, h3, h4, h5, h6, h7⟩ := convs_shape.2 c hc
  have hs : c.startOf p n sb = stdStart sb := by
    cases sb <;> simp only [Conv.startOf, h1, h2, h3] <;> rfl
  have he : c.endOf p n eb = stdEnd n eb := by
    cases eb <;> simp only [Conv.endOf, h4, h5, h6] <;> rfl
  have hle : ∀ e, stdEnd n eb = some e → e ≤ MAX := by
    intro e h
    cases eb with
    | inc v =>
      simp only [stdEnd, Option.ite_none_right_eq_some, Option.some.injEq] at h
      exact h.2 ▸ Nat.succ_le_of_lt h.1
    | exc v => cases h; exact heb e rfl
    | unb => cases h; exact hn
  unfold Conv.run stdBounds
  rw [hs, he, h7]
  cases hs' : stdStart sb with
  | none => rfl
  | some s =>
    cases he' : stdEnd n eb with
    | none => rfl
    | some e => exact C04.index_agrees p n sh hw c.kind { form := .range, start := s, end_ := e } ⟨hle e he', rfl⟩

/-- the provided `last`: `get(len.saturating_sub(1))` is std's `last` (and `None` when empty);
    `first`: `get(0)` is std's `first` -/
theorem last_is_last {α : Type} (rs : List α) : rs[rs.length - 1]? = rs.getLast? :=
  List.getLast?_eq_getElem?.symm

theorem first_is_first {α : Type} (rs : List α) : rs[0]? = rs.head? :=
  List.head?_eq_getElem?.symm

end Soa.C09
