import Soa.Extracted.Surface
import Soa.Extracted.Unsafe
/-!
# C18 — compile-time surface: exclusive borrows, Copy views, auto traits — **partial**

rustc's borrow checker and auto-trait solver are the judge of this property; no model of
them is built here.  What is proved, over tables **extracted from /repo on every run**:

* `field_ctors`: every generated type stores, per plain field, exactly the std reference /
  container type it stands for (`Vec<T>`, `&'a [T]`, `&'a mut [T]`, `&'a T`, `&'a mut T`,
  `*const T`, `*mut T`, `slice::Iter`, `slice::IterMut`) and, per nested field, the nested
  generated type of the same kind;
* `no_unsafe_impls`: the generated code contains no `unsafe impl` (no hand-written
  `Send`/`Sync`);
* `access_fns_are_safe_rust`: every safe generated function whose result carries shared or
  mutable access to elements contains no `unsafe` block (cross-check with the unsafe-site
  list of C19) — so the borrow- and lifetime-soundness of its signature is rustc's own
  guarantee about safe Rust over those std field types;
* `discipline`: every safe function whose result carries **mutable** access takes its
  source by exclusive borrow, or consumes a source that is itself exclusive and not `Copy`;
* auto traits for **every shape** (`auto_is_std`, by induction over nesting): the generated
  type of kind `k` is `Send`/`Sync` exactly when the std type it stands for, applied to the
  element type, is; pointer bundles are neither, for every non-empty shape (`ptr_never`);
* `Copy` exactly for slice / reference / pointer bundles (`copy_kinds`), views and references
  covariant in their lifetime (`covariant_lifetime`);
* the loan calculus' verdicts on the program patterns of the probe corpus
  (`excl_twice_rejected` … `copy_reuse_accepted`): two live results one of which is
  exclusive are rejected, sequential use and any number of shared results are accepted, a
  result used after its source's scope is rejected, a consumed non-`Copy` source cannot be
  reused.

Every probe program's verdict by rustc is compared with the calculus' prediction on every
run (the tie); the Send/Sync/Copy table rustc computes is compared with `stdAuto` and with
rustc's own verdict on the std types.
-/
namespace Soa.C18
open Soa.Surface

/-- the generated types store what the std types they stand for store -/
theorem field_ctors :
    ∀ k ∈ K9.all, (Extracted.fieldCtors.lookup k) = some [ctorOf k, .nested k, ctorOf k] := by decide +kernel

theorem no_unsafe_impls : Extracted.unsafeImpls = [] := by decide

/-- **discipline** on the extracted signature table -/
theorem discipline : Extracted.sigs.all Sig.ok = true := by decide +kernel

/-- qualified name in the format of `Extracted.unsafeSites` -/
def Sig.site (s : Sig) : String :=
  s.owner ++ (if s.trait_ == "" then "" else "<" ++ s.trait_ ++ ">") ++ "::" ++ s.name

/-- every safe function that hands out access is free of `unsafe` blocks -/
theorem access_fns_are_safe_rust :
    Extracted.sigs.all (fun s => s.unsafe_ || s.out == .none ||
      !(Extracted.unsafeSites.any (fun u => u.endsWith ("::" ++ s.name) && u.startsWith (s.owner.takeWhile (· != '<'))))) = true := by
  decide +kernel

/-- the safe functions with `unsafe` blocks return no access at all -/
theorem unsafe_sites_return_owned :
    Extracted.unsafeSites = ["PVec::push", "PVec::insert", "PVec::replace", "PRefMut<'a>::replace"] := rfl

theorem and2_assoc (a b c : Bool × Bool) : and2 (and2 a b) c = and2 a (and2 b c) := by
  simp [and2, Bool.and_assoc]

/-- the field constructors are homomorphic in the flags: conjunction commutes -/
theorem homo_of (k : K9) : ∀ a b, ctorAuto (ctorOf k) (and2 a b) = and2 (ctorAuto (ctorOf k) a) (ctorAuto (ctorOf k) b) := by
  intro (a1, a2) (b1, b2)
  cases k <;> rfl

theorem top_of (k : K9) (hk : k ≠ .ptr ∧ k ≠ .ptrMut) : ctorAuto (ctorOf k) (true, true) = (true, true) := by
  revert hk; cases k <;> decide

/-- **vectors, views, references and iterators are Send/Sync exactly when the std type they
    stand for is**, for every shape (any number of fields, any nesting) -/
theorem auto_is_std (k : K9) (hk : k ≠ .ptr ∧ k ≠ .ptrMut) : ∀ sh : Sh, sh.gen k = stdAuto k sh.elem
  | .leaf _ _ => rfl
  | .nest fs => go fs
where go : ∀ fs : List Sh, Sh.gen.genL k fs = stdAuto k (Sh.elem.elemL fs)
  | [] => (top_of k hk).symm
  | f :: fs => by
    rw [Sh.gen.genL, Sh.elem.elemL, auto_is_std k hk f, go fs]
    exact (homo_of k _ _).symm

/-- **pointer bundles are neither Send nor Sync**, for every non-empty shape -/
theorem ptr_never (k : K9) (hk : k = .ptr ∨ k = .ptrMut) : ∀ sh : Sh, sh.wf = true → sh.gen k = (false, false)
  | .leaf _ _, _ => by rcases hk with rfl | rfl <;> rfl
  | .nest (f :: fs), h => by
    have h : (f.wf && Sh.wf.wfL fs) = true := h
    rw [Sh.gen, Sh.gen.genL, ptr_never k hk f (Bool.and_eq_true_iff.mp h).1]
    rfl

/-- what the std types give, spelled out: `Vec<T>`, `&mut [T]`, `&mut T`, `IterMut` follow `T`;
    `&[T]`, `&T`, `Iter` need `T: Sync` for both -/
theorem std_rules (s y : Bool) :
    stdAuto .vec (s, y) = (s, y) ∧ stdAuto .sliceMut (s, y) = (s, y) ∧ stdAuto .refMut (s, y) = (s, y) ∧
    stdAuto .iterMut (s, y) = (s, y) ∧ stdAuto .slice (s, y) = (y, y) ∧ stdAuto .ref (s, y) = (y, y) ∧
    stdAuto .iter (s, y) = (y, y) :=
  ⟨rfl, rfl, rfl, rfl, rfl, rfl, rfl⟩

/-- a struct can be `Copy` only if every field is; with the extracted constructors that
    leaves exactly the shared views and the pointer bundles -/
theorem copy_kinds (k : K9) : k.copy = ctorCopy (ctorOf k) := by cases k <;> rfl

/-- exclusive kinds are never `Copy` -/
theorem exclusive_not_copy (k : K9) (h : k.exclusive = true) : k.copy = false := by revert h; cases k <;> decide

/-- the field constructors of views and references are covariant in the lifetime parameter, so the
    structs are (a nested field contributes the nested view / reference, by induction the same); the
    iterators of a struct with a nested field name the nested iterator through an associated type of
    `SoAIter<'a>` and are invariant — the property asks covariance of views and references only -/
theorem covariant_lifetime (k : K9) (hk : k = .slice ∨ k = .sliceMut ∨ k = .ref ∨ k = .refMut) :
    ctorCovariantLt (ctorOf k) = true := by rcases hk with rfl | rfl | rfl | rfl <;> rfl

theorem covariant_type_iff (k : K9) :
    ctorCovariantTy (ctorOf k) = true ↔ k = .vec ∨ k = .slice ∨ k = .ref ∨ k = .ptr ∨ k = .iter := by
  cases k <;> simp [ctorOf, ctorCovariantTy]

/-! ## loan calculus: the verdicts the probe corpus expects -/

instance Mode.decidableForall (p : Mode → Prop) [DecidablePred p] : Decidable (∀ m, p m) :=
  decidable_of_iff (p .shared ∧ p .excl ∧ p .value ∧ p .none)
    ⟨fun ⟨a, b, c, d⟩ m => by cases m <;> assumption, fun h => ⟨h _, h _, h _, h _⟩⟩

/-- two results of one source alive together, the first keeping an exclusive borrow: rejected,
    however the second call takes the source -/
theorem excl_twice_rejected (c : Bool) (t h : Mode) (ht : t ≠ .none) :
    accepted c [.call .excl .excl, .call t h, .use 0, .use 1] = false := by
  revert c t h; decide +kernel

/-- a shared result alive across an exclusive call, or across a move of a non-`Copy` source: rejected -/
theorem shared_then_excl_rejected (c : Bool) (h : Mode) :
    accepted c [.call .shared .shared, .call .excl h, .use 0] = false ∧
    accepted false [.call .shared .shared, .call .value h, .use 0] = false := by
  revert c h; decide +kernel

/-- an exclusive result alive across any other access, even one whose result keeps nothing (`len()`): rejected -/
theorem excl_then_shared_rejected (c : Bool) (h : Mode) :
    accepted c [.call .excl .excl, .call .shared h, .use 0] = false := by
  revert c h; decide +kernel

/-- sequential use is accepted: the first result is dead before the second call -/
theorem sequential_accepted (c : Bool) (t h t' h' : Mode) (hv : t ≠ .value) :
    accepted c [.call t h, .use 0, .call t' h', .use 1] = true := by
  -- 384 programs; unfolding shows the reason: at the second call nothing earlier is used later, and the first call did not move
  simp [accepted, stepOk, callsBefore, usedFrom, calls, List.range_succ, hv]

/-- any number of shared results may be alive together -/
theorem shared_many_accepted (c : Bool) :
    accepted c [.call .shared .shared, .call .shared .shared, .call .shared .shared, .use 0, .use 1, .use 2] = true := by
  revert c; decide +kernel

/-- results that keep nothing borrowed (a mutable iterator's `next`) may be alive together -/
theorem untied_many_accepted (c : Bool) : accepted c [.call .excl .none, .call .excl .none, .use 0, .use 1] = true := by
  revert c; decide +kernel

/-- a borrowed result used after the source's scope: rejected -/
theorem escape_rejected (c : Bool) (t h : Mode) (hh : h = .shared ∨ h = .excl) :
    accepted c [.call t h, .endScope, .use 0] = false := by
  revert c t h; decide +kernel

/-- a consumed non-`Copy` source cannot be used again; a `Copy` one can -/
theorem moved_reuse_rejected (t h h' : Mode) (ht : t ≠ .none) :
    accepted false [.call .value h, .call t h'] = false := by
  revert t h h'; decide +kernel

theorem copy_reuse_accepted :
    accepted true [.call .value .none, .call .value .none, .use 0, .use 1] = true ∧
    accepted true [.call .value .none, .call .shared .shared, .use 0, .use 1] = true := by
  decide +kernel

/-- the parts of a consuming split are one result: both usable -/
theorem split_halves_accepted (c : Bool) : accepted c [.call .value .none, .use 0, .use 0] = true := by
  revert c; decide +kernel

/-- what the signature table says the calculus should assume about each function -/
theorem hold_of_untied (s : Sig) (h : s.tied = false) : s.hold = .none := by
  unfold Sig.hold; cases s.mode <;> simp [h]

/-! non-vacuity: the table is not empty and contains the functions the corpus is built from -/
example : 250 ≤ Extracted.sigs.length := by decide +kernel
example : (Extracted.sigs.filter (fun s => s.out == .mutable && !s.unsafe_)).length ≥ 55 := by decide +kernel
example : Sh.gen .slice (.nest [.leaf true false, .nest [.leaf true true]]) = (false, false) := rfl
example : Sh.gen .vec (.nest [.leaf true false, .nest [.leaf true true]]) = (true, false) := rfl

end Soa.C18
