import Soa.Lemmas.IndexEval
import Soa.Model.Pinned
import Soa.Extracted.Bodies
/-!
# C04 — checked indexing agrees with std slices and is never out of bounds

Stated over the index layer **as extracted from `/repo` on this run** (`Soa.Extracted.table`,
84 functions).  For every container kind, every index form, every index value up to
`usize::MAX`, every length, every well-formed struct shape and both build profiles, the
non-panicking accessors return exactly what std's `get` returns, the panicking accessors
panic exactly when std indexing panics, the window is the same in every field, and it lies
inside the initialised part of every field array.

Partial in one respect (known finding KF-C04-exhausted-inclusive): an *exhausted*
`RangeInclusive` is excluded by hypothesis; the counter-example is proved below.
-/
namespace Soa.C04
open Soa.IdxIR Soa.Extracted

/-- the translator expressed every generated index function in the IR (nothing opaque) -/
theorem translation_complete : nFunctions = 84 ∧ nOpaque = 0 := by decide

/-- the non-panicking accessor of each container kind -/
def getOf : Kind → M
  | .vecRef | .slice => .get
  | .vecMut | .sliceMut => .getMut

/-- the panicking accessor of each container kind -/
def indexOf : Kind → M
  | .vecRef | .slice => .index
  | .vecMut | .sliceMut => .indexMut

/-- index values a program can build: `usize` fields, not an exhausted inclusive range -/
structure IV.ok (iv : IV) : Prop where
  end_le : iv.end_ ≤ MAX
  fresh : iv.exhausted = false

/-- with fuel `f`, the two checked accessors of kind `k` answer the index `iv` on a lockstep container
    as std's slices do.  The lemmas below follow the table's own forwarding: positions and ranges
    reach the per-field struct literal, every other form is forwarded to a range, and `stdGet`
    satisfies the same equations (`stdGet_rangeTo` …).  Each states the shape of the eight entries it
    covers and reads them off the extracted table by `rfl`. -/
def Agrees (f : Nat) (p : Prof) (n : Nat) (sh : Shape) (k : Kind) (iv : IV) : Prop :=
  runF table f p (LT.uniform n sh) k iv (getOf k) = expectGet (stdGet n iv) ∧
  runF table f p (LT.uniform n sh) k iv (indexOf k) = expectIndex (stdGet n iv)

theorem Agrees.forward {p : Prof} {n : Nat} {sh : Shape} {k : Kind} {iv : IV} {f : Nat} {κ : K} {i : I} {iv' : IV}
    (hg : table k iv.form (getOf k) = some (.call (getOf (kindAfter k κ)) i κ))
    (hi : table k iv.form (indexOf k) = some (.call (indexOf (kindAfter k κ)) i κ))
    (he : evalI p (LT.uniform n sh) iv i = some iv') (hs : stdGet n iv = stdGet n iv')
    (ih : Agrees f p n sh (kindAfter k κ) iv') : Agrees (f + 1) p n sh k iv := by
  unfold Agrees at ih ⊢
  rw [hs, ← ih.1, ← ih.2]
  simp only [runF, hg, hi, eval_call, he, and_self]

section
variable {p : Prof} {n : Nat} {sh : Shape} (hw : sh.wf) {k : Kind} {iv : IV} (f : Nat)
include hw

/-- the slice types, position or range: the struct literal asks every field (`f.get(i)?` / `&f[i]`), each answers as std -/
theorem Agrees.slice (hk : sliceKind k = k) (h : iv.form = .pos ∨ iv.form = .range) : Agrees (f + 2) p n sh k iv := by
  -- the rows: `get` is `Some(P { f: f.get(i)?, .. })`, a per-field builder in try mode; `index` the builder in checked mode
  obtain ⟨lg, li, mg, mi, hg, hi⟩ : ∃ lg li, lg.mode = .try_ ∧ li.mode = .checked ∧
      table k iv.form (getOf k) = some (.some (.build lg (getOf k))) ∧
      table k iv.form (indexOf k) = some (.build li (indexOf k)) := by
    rcases h with h | h <;> rw [h] <;> cases k <;> cases hk <;> exact ⟨_, _, rfl, rfl, rfl, rfl⟩
  unfold Agrees runF
  simp only [hg, hi, eval_some, eval_build, hk, or_true, true_or, if_true, buildLT_uniform n iv _ sh hw,
    leafAcc_std n iv _ h, mg, mi]
  cases stdGet n iv <;> exact ⟨rfl, rfl⟩

/-- the vectors forward positions and ranges to their slices -/
theorem Agrees.base (h : iv.form = .pos ∨ iv.form = .range) : Agrees (f + 3) p n sh k iv := by
  cases k
  case slice => exact .slice hw (f + 1) rfl h
  case sliceMut => exact .slice hw (f + 1) rfl h
  case vecRef =>
    refine .forward (κ := .asSlice) (i := .self) ?_ ?_ rfl rfl (.slice hw f rfl h) <;>
      rcases h with h | h <;> rw [h] <;> rfl
  case vecMut =>
    refine .forward (κ := .asMutSlice) (i := .self) ?_ ?_ rfl rfl (.slice hw f rfl h) <;>
      rcases h with h | h <;> rw [h] <;> rfl

/-- `..e` is `0..e` -/
theorem Agrees.rangeTo (h : iv.form = .rangeTo) : Agrees (f + 4) p n sh k iv := by
  refine .forward (κ := .same) (i := .range (.lit 0) .end_) ?_ ?_ rfl (stdGet_rangeTo h) (.base hw f (.inr rfl)) <;>
    rw [h] <;> cases k <;> rfl

/-- `s..` is `s..len()`, and `len()` is the common length -/
theorem Agrees.rangeFrom (h : iv.form = .rangeFrom) : Agrees (f + 4) p n sh k iv := by
  refine .forward (κ := .same) (i := .range .start .lenChecked) ?_ ?_ ?_ (stdGet_rangeFrom h) (.base hw f (.inr rfl))
  · rw [h]; cases k <;> rfl
  · rw [h]; cases k <;> rfl
  · simp only [evalI, evalA, lenChecked_uniform p n sh hw]

theorem Agrees.rangeFull (h : iv.form = .rangeFull) : Agrees (f + 2) p n sh k iv := by
  obtain ⟨κ, hg, hi⟩ : ∃ κ, table k iv.form (getOf k) = some (.some (.cont κ)) ∧
      table k iv.form (indexOf k) = some (.cont κ) := by
    rw [h]; cases k <;> exact ⟨_, rfl, rfl⟩
  unfold Agrees runF
  rw [stdGet_rangeFull h, hg, hi]
  simp only [eval_some, eval_cont, first_uniform n sh hw]
  exact ⟨rfl, rfl⟩

/-- `s..=e` is `s..e+1` behind std's guard `e == usize::MAX`; below it `e + 1` does not overflow in either profile -/
theorem Agrees.rangeIncl (h : iv.form = .rangeIncl) (he : iv.end_ ≤ MAX) (hx : iv.exhausted = false) :
    Agrees (f + 5) p n sh k iv := by
  have ⟨hg, hi⟩ : table k iv.form (getOf k) =
        some (.ite (.eq .end_ .max) .none (.call (getOf k) (.range .start (.add .end_ (.lit 1))) .same)) ∧
      table k iv.form (indexOf k) =
        some (.ite (.eq .end_ .max) .panic (.call (indexOf k) (.range .start (.add .end_ (.lit 1))) .same)) := by
    rw [h]; cases k <;> exact ⟨rfl, rfl⟩
  have ih := Agrees.base (p := p) (n := n) (k := k) (iv := { form := .range, start := iv.start, end_ := iv.end_ + 1 }) hw f (.inr rfl)
  unfold Agrees at ih ⊢
  rw [stdGet_rangeIncl h, hx, if_neg Bool.false_ne_true]
  unfold runF
  simp only [hg, hi, eval_ite, evalC, evalA]
  by_cases hm : iv.end_ = MAX
  · simp only [hm, decide_true, eval_none, eval_panic, if_true]
    exact ⟨rfl, rfl⟩
  · simp only [hm, decide_false, eval_call, evalI, evalA, addU_small p iv.end_ (Nat.lt_of_le_of_ne he hm), kindAfter, ih,
      if_false, and_self]

/-- `..=e` is `0..=e` -/
theorem Agrees.rangeToIncl (h : iv.form = .rangeToIncl) (he : iv.end_ ≤ MAX) : Agrees (f + 6) p n sh k iv := by
  refine .forward (κ := .same) (i := .rangeIncl (.lit 0) .end_) ?_ ?_ rfl (stdGet_rangeToIncl h) (.rangeIncl hw f rfl he rfl) <;>
    rw [h] <;> cases k <;> rfl

end

/-- all 56 checked accessors at once (`run = runF table 8`) -/
theorem run_agrees (p : Prof) (n : Nat) (sh : Shape) (hw : sh.wf) (k : Kind) (iv : IV) (hiv : IV.ok iv) :
    Agrees 8 p n sh k iv := by
  cases h : iv.form
  case pos => exact .base hw 5 (.inl h)
  case range => exact .base hw 5 (.inr h)
  case rangeTo => exact .rangeTo hw 4 h
  case rangeFrom => exact .rangeFrom hw 4 h
  case rangeFull => exact .rangeFull hw 6 h
  case rangeIncl => exact .rangeIncl hw 3 h hiv.1 hiv.2
  case rangeToIncl => exact .rangeToIncl hw 2 h hiv.1

/-- **C04, `get` / `get_mut`.** -/
theorem get_agrees (p : Prof) (n : Nat) (sh : Shape) (hw : sh.wf) (k : Kind) (iv : IV) (hiv : IV.ok iv) :
    run p n sh k iv (getOf k) = expectGet (stdGet n iv) :=
  (run_agrees p n sh hw k iv hiv).1

/-- **C04, `index` / `index_mut`.** -/
theorem index_agrees (p : Prof) (n : Nat) (sh : Shape) (hw : sh.wf) (k : Kind) (iv : IV) (hiv : IV.ok iv) :
    run p n sh k iv (indexOf k) = expectIndex (stdGet n iv) :=
  (run_agrees p n sh hw k iv hiv).2

theorem stdGet_inbounds (n : Nat) (iv : IV) (s l : Nat) (h : stdGet n iv = some (s, l)) : s + l ≤ n := by
  have range : ∀ iv : IV, iv.form = .range → stdGet n iv = some (s, l) → s + l ≤ n := by
    intro iv hf h
    simp only [stdGet, hf, Option.ite_none_right_eq_some, Option.some.injEq, Prod.mk.injEq] at h
    obtain ⟨⟨hse, hen⟩, rfl, rfl⟩ := h
    exact Nat.le_trans (Nat.le_of_eq (Nat.add_sub_cancel' hse)) hen
  have incl : ∀ iv : IV, iv.form = .rangeIncl → stdGet n iv = some (s, l) → s + l ≤ n := by
    intro iv hf h
    rw [stdGet_rangeIncl hf] at h
    split at h
    · cases h
    · exact range _ rfl h
  cases hf : iv.form
  case pos =>
    simp only [stdGet, hf, Option.ite_none_right_eq_some, Option.some.injEq, Prod.mk.injEq] at h
    obtain ⟨hp, rfl, rfl⟩ := h
    exact hp
  case range => exact range iv hf h
  case rangeTo => exact range _ rfl (stdGet_rangeTo hf ▸ h)
  case rangeFrom => exact range _ rfl (stdGet_rangeFrom hf ▸ h)
  case rangeFull =>
    cases (stdGet_rangeFull hf).symm.trans h
    exact Nat.le_of_eq (Nat.zero_add n)
  case rangeIncl => exact incl iv hf h
  case rangeToIncl => exact incl _ rfl (stdGet_rangeToIncl hf ▸ h)

/-- **C04, never out of bounds.**  Whatever an accessor returns is a window inside the
    initialised part of every field array — in both profiles (so the `get_unchecked` calls of
    the generated code are in bounds: the outcome is never `ub`). -/
theorem inbounds (p : Prof) (n : Nat) (sh : Shape) (hw : sh.wf) (k : Kind) (iv : IV) (hiv : IV.ok iv) :
    (∀ s l, run p n sh k iv (getOf k) = .ok (.some_ (.win s l)) → s + l ≤ n) ∧
    (∀ s l, run p n sh k iv (indexOf k) = .ok (.win s l) → s + l ≤ n) ∧
    run p n sh k iv (getOf k) ≠ .err .ub ∧ run p n sh k iv (indexOf k) ≠ .err .ub := by
  rw [get_agrees p n sh hw k iv hiv, index_agrees p n sh hw k iv hiv]
  rcases h : stdGet n iv with _ | ⟨a, b⟩
  · exact ⟨nofun, nofun, nofun, nofun⟩
  · have hb := stdGet_inbounds n iv a b h
    exact ⟨fun s l e => by cases e; exact hb, fun s l e => by cases e; exact hb, nofun, nofun⟩

/-- debug and release builds of the accessors behave identically (C17 for the index layer) -/
theorem profile_independent (n : Nat) (sh : Shape) (hw : sh.wf) (k : Kind) (iv : IV) (hiv : IV.ok iv) :
    run .debug n sh k iv (getOf k) = run .release n sh k iv (getOf k) ∧
    run .debug n sh k iv (indexOf k) = run .release n sh k iv (indexOf k) := by
  rw [get_agrees .debug n sh hw k iv hiv, get_agrees .release n sh hw k iv hiv,
    index_agrees .debug n sh hw k iv hiv, index_agrees .release n sh hw k iv hiv]
  exact ⟨rfl, rfl⟩

/-! ## the full-strength statement fails on an exhausted inclusive range (known finding) -/

def sh3 : Shape := .nest [.leaf, .nest [.leaf, .leaf], .leaf]

/-- witness: on a container of length 1, `get(0..=0)` with the range exhausted: the generated
    code selects element 0, std selects the empty range at 1 -/
example : run .release 1 sh3 .vecRef { form := .rangeIncl, start := 0, end_ := 0, exhausted := true } .get
    = .ok (.some_ (.win 0 1)) := by decide +kernel
example : expectGet (stdGet 1 { form := .rangeIncl, start := 0, end_ := 0, exhausted := true })
    = .ok (.some_ (.win 1 0)) := by decide +kernel

example : sh3.wf := by simp [sh3, Shape.wf]
example : IV.ok { form := .rangeIncl, start := 1, end_ := 2 } := ⟨by decide, rfl⟩
example : run .debug 3 sh3 .sliceMut { form := .rangeIncl, start := 1, end_ := 2 } .getMut = .ok (.some_ (.win 1 2)) := by
  decide +kernel

/-- **text pin**: the generated functions this property's hand-written model describes have, in
    /repo today, exactly the text the model was written from (`Soa/Model/Pinned.lean`) -/
theorem bodies_pinned : Soa.Extracted.bodies_C04 = Soa.Model.pinned_C04 := rfl

theorem bodies_pinned_nonempty : Soa.Model.pinned_C04.length ≥ 4 := by decide

end Soa.C04
