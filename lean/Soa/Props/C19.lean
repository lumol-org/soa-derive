import Soa.Model.IndexSafe
import Soa.Extracted.Unsafe
import Soa.Lemmas.Ledger
/-!
# C19 — the safe API stays memory-safe when field arrays are desynchronised

The field arrays are public, so safe code can build a container whose arrays differ in
length.  Nothing below assumes lockstep.

1. **Where can the safe API be unsafe at all?**  Only where a safe generated function
   contains an `unsafe` block.  The translator lists those sites from the generator sources
   of this run; `unsafe_sites` pins the list: the four `ptr::read` move-in templates
   (`push`, `insert`, `replace`, `RefMut::replace`) and nothing else — in particular nothing
   in the index layer any more (fix aa7ec8d).  Every other safe method is safe Rust calling
   bounds-checked std methods and zipping iterators (which stop at the shortest field): it
   can panic, but cannot touch memory beyond a field array — that part rests on rustc's
   safety guarantee (trusted), and is what the desync correspondence exercises.
2. **Accessors**: for every tree of field lengths, every index value, both profiles, every
   safe accessor (`get`/`get_mut`/`index`/`index_mut`, 7 forms, 4 container kinds) of the index
   layer *extracted from /repo* never performs an unchecked out-of-bounds access
   (`accessors_never_ub`: a static analysis of the extracted terms, `analysis_accepts`, plus
   its soundness proof `eval_not_ub`).  The `unsafe fn get_unchecked*` entries are, rightly,
   not accepted (`unchecked_is_rejected`).
3. **Move-in templates**: with `ManuallyDrop` (fix b19a205) a per-field call that panics
   half-way — possible only on a desynchronised container — cannot make a value owned twice:
   on **every** pair of trees the ids left in the container and the ids not moved in are
   together a permutation of what there was (`move_in_no_duplication`), so with distinct ids
   nothing is in both (`move_in_disjoint`).  Values not moved in are leaked or dropped once
   by std, never twice.  `remove`/`swap_remove`/`pop`/`split_off`/`truncate`/`clear`/`append`
   conserve ownership on every tree (C03).
-/
namespace Soa.C19
open Soa.IdxIR Soa.Extracted

/-- the only safe generated functions containing `unsafe` code -/
theorem unsafe_sites :
    unsafeSites = ["PVec::push", "PVec::insert", "PVec::replace", "PRefMut<'a>::replace"] := rfl

/-- the accessors callable from safe code -/
def safeMethod : M → Bool
  | .get | .getMut | .index | .indexMut => true
  | .getUnchecked | .getUncheckedMut => false

/-- the analysis accepts every safe accessor of the extracted table -/
theorem analysis_accepts (k : Kind) (form : Form) (m : M) (hm : safeMethod m = true) (b : B)
    (hb : table k form m = some b) : safeB table 8 k form b = true := by
  -- one evaluation of the analysis over the whole table; `k`, `form` and `m` are then found in the lists
  have h : ∀ k ∈ [Kind.vecRef, .vecMut, .slice, .sliceMut],
      ∀ f ∈ [Form.pos, .range, .rangeTo, .rangeFrom, .rangeFull, .rangeIncl, .rangeToIncl],
      ∀ m ∈ [M.get, .getMut, .index, .indexMut], ∀ b ∈ table k f m, safeB table 8 k f b = true := by decide +kernel
  exact h k (by cases k <;> decide) form (by cases form <;> decide) m (by cases m <;> cases hm <;> decide) b hb

/-- **C19, accessors**: no safe accessor ever performs an unchecked out-of-bounds access, on
    any (also desynchronised) container, for any index value, in any profile -/
theorem accessors_never_ub (p : Prof) (t : LT) (k : Kind) (iv : IV) (m : M) (hm : safeMethod m = true) :
    runLT p t k iv m ≠ .err .ub := by
  unfold runLT
  cases hb : table k iv.form m with
  | none => nofun
  | some b => exact eval_not_ub table p t 8 k iv b (analysis_accepts k iv.form m hm b hb)

/-- the analysis is not vacuous: it rejects the `unsafe fn` entries, which do use unchecked access -/
theorem unchecked_is_rejected : safeB table 8 .slice .pos slice_pos_getUnchecked = false := by decide

/-- and those entries really are undefined behaviour on a desynchronised container
    (second field shorter) — which is why they are `unsafe fn` -/
example : runLT .release (.nest [.leaf 2, .leaf 1]) .slice { form := .pos, pos := 1 } .getUnchecked = .err .ub := by
  decide +kernel

/-- the same position through the safe `get`: `None` (one field is too short), not UB -/
example : runLT .release (.nest [.leaf 2, .leaf 1]) .slice { form := .pos, pos := 1 } .get = .ok .none_ := by
  decide +kernel

/-- …and through the safe `index`: a panic -/
example : runLT .release (.nest [.leaf 2, .leaf 1]) .slice { form := .pos, pos := 1 } .index = .err .panic := by
  decide +kernel

/-- **C19, move-in templates** (`push`/`insert`/`replace`): on every pair of same-shaped trees,
    lockstep or not, also when a field's std call panics half-way, the values left in the
    container and the values not moved in are together exactly what there was -/
theorem move_in_no_duplication (op : PolyOp) (hl : op.Linear) (c e : Cols) (hs : c.same e) :
    ((c.apply2 op e).st.flat ++ (c.apply2 op e).out.flat).Perm (c.flat ++ e.flat) :=
  apply2_conserve op hl c e

/-- with distinct values: nothing is both in the container and still with the caller, so
    nothing can be destroyed twice -/
theorem move_in_disjoint (op : PolyOp) (hl : op.Linear) (c e : Cols) (hs : c.same e)
    (hd : (c.flat ++ e.flat).Nodup) : ((c.apply2 op e).st.flat ++ (c.apply2 op e).out.flat).Nodup :=
  (List.Perm.nodup_iff (move_in_no_duplication op hl c e hs)).mpr hd

/-- the three templates are linear -/
theorem templates_linear (i : Nat) : appendOp.Linear ∧ (insertOp i).Linear ∧ (replaceOp i).Linear :=
  ⟨append_linear, insert_linear i, replace_linear i⟩

/-- witness: `insert(1, x)` on a container whose second field array is empty: the first
    field accepts, the second panics; `x.a` is in the container, `x.b` stayed outside —
    nothing is duplicated -/
example : ((Cols.nest [.leaf [8, 16], .leaf []]).apply2 (insertOp 1) (.nest [.leaf [24], .leaf [25]])).panicked = true ∧
    ((Cols.nest [.leaf [8, 16], .leaf []]).apply2 (insertOp 1) (.nest [.leaf [24], .leaf [25]])).st.leaves = [[8, 24, 16], []] ∧
    ((Cols.nest [.leaf [8, 16], .leaf []]).apply2 (insertOp 1) (.nest [.leaf [24], .leaf [25]])).out.leaves = [[], [25]] := by
  decide +kernel

end Soa.C19
