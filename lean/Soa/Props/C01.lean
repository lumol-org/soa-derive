import Soa.Lemmas.Method
import Soa.Lemmas.SpecRetainW
import Soa.Lemmas.RetainConserve
import Soa.Model.Pinned
import Soa.Extracted.Bodies
import Soa.Lemmas.SkelTie
/-!
# C01 — the SoA vector is observationally a `Vec<T>`

For every struct shape (any number of fields, any nesting), every container `c` in lockstep
and every argument: the model of the generated method and the std operation on the rows
agree on the panic flag, the returned value, the `None` answer and the contents left
behind, and the container stays in lockstep with its shape.
-/
namespace Soa.C01

/-- observational refinement of one call: model outcome vs `Vec<T>` outcome -/
structure Refines (c : Cols) (o : Model.Out) (s : Spec.Out) : Prop where
  panicked : o.panicked = s.panicked
  st : o.st.rows = s.st
  ret : o.ret.map Cols.rows = s.ret
  isNone : o.isNone = s.isNone
  lock : ∃ m, o.st.lock m
  same : c.same o.st
  atomic : o.panicked = true → o.st = c

variable {c e : Cols} {n : Nat}

theorem refines_unchanged (hc : c.lock n) (p b : Bool) (ev ev' : Ev) :
    Refines c { st := c, panicked := p, isNone := b, ev := ev } { st := c.rows, panicked := p, isNone := b, ev := ev' } :=
  ⟨rfl, rfl, rfl, rfl, ⟨n, hc⟩, same_refl c, fun _ => rfl⟩

section template
variable {a : Cols} {k : Nat} (op : PolyOp) (hc : c.lock n) (ha : a.lock k) (hs : c.same a)
include hc ha hs

/-- **every method that hands the result column back** refines the std call on the rows -/
theorem callRet_refines (ev : Cols → Ev) (ev' : Ev) :
    Refines c (Model.callRet op c a ev) (Spec.callRet op c.rows a.rows ev') := by
  unfold Model.callRet Spec.callRet Spec.std
  cases perField op c a n k hc ha hs with
  | ok s hrun _ hp hst hout hl _ hsm _ =>
    simp only [hrun, hp, Bool.false_eq_true, ↓reduceIte]
    exact ⟨rfl, hst, congrArg some hout, rfl, ⟨_, hl⟩, hsm, nofun⟩
  | fail hrun _ hp hst _ =>
    simp only [hrun, hp, hst, ↓reduceIte]
    exact refines_unchanged hc true false _ _

/-- **every method that returns nothing** refines the std call on the rows -/
theorem callUnit_refines (ev : Bool → Ev) (other : Cols → Option Cols) (ev' : Ev) :
    Refines c (Model.callUnit op c a ev other) (Spec.callUnit op c.rows a.rows ev') := by
  unfold Model.callUnit Spec.callUnit Spec.std
  cases perField op c a n k hc ha hs with
  | ok s hrun _ hp hst _ hl _ hsm _ =>
    simp only [hrun, hp]
    exact ⟨rfl, hst, rfl, rfl, ⟨_, hl⟩, hsm, nofun⟩
  | fail hrun _ hp hst _ =>
    simp only [hrun, hp, hst]
    exact ⟨rfl, rfl, rfl, rfl, ⟨n, hc⟩, same_refl c, fun _ => rfl⟩

end template

theorem callRet0_refines (op : PolyOp) (hc : c.lock n) (ev : Cols → Ev) :
    Refines c (Model.callRet op c (Model.noArgs c) ev) (Spec.callRet op c.rows [] {}) :=
  rows_const_nil c ▸ callRet_refines op hc (lock_noArgs c n hc) (same_const [] c) ev {}

theorem push (hc : c.lock n) (he : e.lock 1) (hs : c.same e) :
    Refines c (Model.push c e) (Spec.push c.rows e.rows) :=
  callUnit_refines appendOp hc he hs (fun _ => {}) (fun _ => none) {}

theorem insert (dr : Bool) (i : Nat) (hc : c.lock n) (he : e.lock 1) (hs : c.same e) :
    Refines c (Model.insert dr c i e) (Spec.insert dr c.rows i e.rows) :=
  Model.insert_eq dr i hc he hs ▸ callUnit_refines (insertOp i) hc he hs _ _ _

theorem replace (dr : Bool) (i : Nat) (hc : c.lock n) (he : e.lock 1) (hs : c.same e) :
    Refines c (Model.replace dr c i e) (Spec.replace dr c.rows i e.rows) :=
  Model.replace_eq dr i hc he hs ▸ callRet_refines (replaceOp i) hc he hs _ _

-- `Model.remove c i` is `Model.callRet (removeOp i) c (noArgs c) dropFields` by definition (likewise `swapRemove`, `splitOff`),
-- and `Spec.remove` is `Spec.callRet … {}`
theorem remove (i : Nat) (hc : c.lock n) :
    Refines c (Model.remove c i) (Spec.remove c.rows i) :=
  callRet0_refines (removeOp i) hc dropFields

theorem swapRemove (i : Nat) (hc : c.lock n) :
    Refines c (Model.swapRemove c i) (Spec.swapRemove c.rows i) :=
  callRet0_refines (swapRemoveOp i) hc dropFields

/-- `pop` is `pop().unwrap()` per field behind the `is_empty()` test: `None` on both sides when empty,
    otherwise the std call cannot fail and the two `None` branches are not reached -/
theorem pop (hc : c.lock n) :
    Refines c (Model.pop c) (Spec.pop c.rows) := by
  unfold Model.pop
  rw [firstLen_lock c n hc]
  split
  · next h0 =>
    subst h0
    rw [show Spec.pop c.rows = { st := c.rows, isNone := true } by simp [Spec.pop, Spec.std, popOp, rows_len 0 c hc]]
    exact refines_unchanged hc false true {} {}
  · next h0 =>
    rw [show Spec.pop c.rows = Spec.callRet popOp c.rows [] {} by
      simp [Spec.pop, Spec.callRet, Spec.std, popOp, rows_len n c hc, Nat.pos_of_ne_zero h0]]
    exact callRet0_refines popOp hc dropFields

theorem splitOff (i : Nat) (hc : c.lock n) :
    Refines c (Model.splitOff c i) (Spec.splitOff c.rows i) :=
  callRet0_refines (splitOffOp i) hc dropFields

theorem truncate (dr : Bool) (k : Nat) (hc : c.lock n) :
    Refines c (Model.truncate dr c k) (Spec.truncate dr c.rows k) := by
  obtain ⟨st, h, h1, h2, h3⟩ := truncate_eq dr k n c hc
  rw [h]
  exact ⟨rfl, h1, rfl, rfl, ⟨_, h2⟩, h3, nofun⟩

theorem clear (dr : Bool) (hc : c.lock n) :
    Refines c (Model.clear dr c) (Spec.clear dr c.rows) := truncate dr 0 hc

theorem dropVec (dr : Bool) (hc : c.lock n) :
    Refines c (Model.dropVec dr c) (Spec.dropVec dr c.rows) := truncate dr 0 hc

/-- `append`: the receiver gets the rows of `other` appended; `other` is left empty -/
theorem append {d : Cols} {k : Nat} (hc : c.lock n) (hd : d.lock k) (hs : c.same d) :
    Refines c (Model.append c d) (Spec.append c.rows d.rows) ∧
      (Model.append c d).other.map Cols.rows = (Spec.append c.rows d.rows).other := by
  obtain ⟨hp, hst, hout, hl, _, hsm, _⟩ := apply2_total (op := appendOp) rfl c d n k hc hd hs rfl
  exact ⟨⟨hp, hst, rfl, rfl, ⟨_, hl⟩, hsm, fun hh => Bool.noConfusion (hp.symm.trans hh)⟩, congrArg some hout⟩

/-- `retain_mut` (and `retain`) with a callback that **writes** to the element it is shown: what is
    kept are the written elements for which the callback answered `true`, in order; the callback is
    shown every element exactly once, in index order, as `Vec::retain_mut` shows it (before its own
    write).  `touch k k = some (l, id)`: at call `k` leaf `l` of the element is overwritten with `id`
    (any leaf number; one outside the struct writes nothing on either side). -/
theorem retain_mut (dr : Bool) (keep : Nat → Bool) (touch : Nat → Nat → Option (Nat × Nat)) (hc : c.lock n) :
    Refines c (Model.retain dr c keep none touch) (Spec.retain dr c.rows keep none touch) ∧
      (Model.retain dr c keep none touch).vis = (Spec.retain dr c.rows keep none touch).vis ∧
      (Spec.retain dr c.rows keep none touch).vis = c.rows.map Elem.ids := by
  obtain ⟨st, junk, ds, mk, hM, hst, _, hl, hs⟩ := Lp.retain_eq keep touch n dr c hc
  obtain ⟨ds', hS⟩ := Spec.retain_eq dr keep touch c.rows
  rw [hM, hS]
  exact ⟨⟨rfl, hst, rfl, rfl, ⟨_, hl⟩, hs, nofun⟩, rfl, rfl⟩

/-- `retain` / `retain_mut` (with a callback that does not write): the elements kept are
    those for which the callback answered `true`, in order; the callback is shown every
    element exactly once, in index order -/
theorem retain (dr : Bool) (keep : Nat → Bool) (hc : c.lock n) :
    Refines c (Model.retain dr c keep none (fun _ _ => none)) (Spec.retain dr c.rows keep none (fun _ _ => none)) ∧
      (Model.retain dr c keep none (fun _ _ => none)).vis = (Spec.retain dr c.rows keep none (fun _ _ => none)).vis ∧
      (Spec.retain dr c.rows keep none (fun _ _ => none)).vis = c.rows.map Elem.ids :=
  retain_mut dr keep _ hc

/-- `Extend<T>` / `FromIterator`: pushing the items one by one appends their rows -/
theorem extend : ∀ (es : List Cols) (c : Cols) (n : Nat), c.lock n →
    (∀ e ∈ es, e.lock 1 ∧ c.same e) →
    Refines c (Model.extend c es) (Spec.extend c.rows (es.map Cols.rows).flatten) := by
  intro es c n hc he
  obtain ⟨hp, hst, hl, hsm⟩ := extend_ok es c n hc he
  rw [Lp.extend_shape es c]
  exact ⟨hp, hst, rfl, rfl, hl, hsm, fun hh => Bool.noConfusion (hp.symm.trans hh)⟩

theorem rowCols_spec {d : Cols} {k : Nat} (hd : d.lock k) (i : Nat) (hi : i < k) :
    (Model.rowCols d i).lock 1 ∧ d.same (Model.rowCols d i) ∧
    (Model.rowCols d i).rows = (d.rows.drop i).take 1 := by
  obtain ⟨r, hr, hrows, hl, hs⟩ := rowCols_ok d k i hd hi
  obtain ⟨hi', rfl⟩ := List.getElem?_eq_some_iff.mp hr
  exact ⟨hl, hs, by rw [hrows, List.drop_eq_getElem_cons hi', List.take_succ_cons, List.take_zero]⟩

theorem flatten_rows_range {α : Type} (R : List α) :
    ((List.range R.length).map (fun i => (R.drop i).take 1)).flatten = R := by
  induction R with
  | nil => rfl
  | cons x xs ih =>
    rw [List.length_cons, List.range_succ_eq_map, List.map_cons, List.map_map, List.flatten_cons]
    exact congrArg (x :: ·) ih

theorem resize (dr : Bool) (k : Nat) (hc : c.lock n) (he : e.lock 1) (hs : c.same e) :
    Refines c (Model.resize dr c k e) (Spec.resize dr c.rows k e.rows) := by
  rw [Model.resize, Spec.resize, firstLen_lock c n hc, rows_len n c hc]
  by_cases hk : k > n
  · rw [if_pos hk, if_neg (Nat.not_le.mpr hk)]
    have h := extend (List.replicate (k - n) e) c n hc fun x hx => List.eq_of_mem_replicate hx ▸ ⟨he, hs⟩
    exact ⟨h.panicked, h.st.trans (by simp [Spec.extend]), rfl, rfl, h.lock, h.same, h.atomic⟩
  · rw [if_neg hk, if_pos (Nat.not_lt.mp hk)]
    have h := truncate dr k hc
    exact ⟨h.panicked, h.st, rfl, rfl, h.lock, h.same, h.atomic⟩

theorem extendFromSlice {d : Cols} {k : Nat} (hc : c.lock n) (hd : d.lock k) (hs : c.same d) :
    Refines c (Model.extendFromSlice c d) (Spec.extendFromSlice c.rows d.rows) := by
  have h := extend _ c n hc (rowCols_range hd hs)
  rw [Model.extendFromSlice, firstLen_lock d k hd]
  refine ⟨h.panicked, h.st.trans (congrArg (c.rows ++ ·) ?_), rfl, rfl, h.lock, h.same, h.atomic⟩
  -- the rows of the elements read one by one are the rows of the source
  rw [List.map_map, ← flatten_rows_range d.rows, rows_len k d hd]
  exact congrArg _ (List.map_congr_left fun i hi => (rowCols_spec hd i (List.mem_range.mp hi)).2.2)

theorem toVec (hc : c.lock n) : Refines c (Model.toVec c) (Spec.toVec c.rows) :=
  ⟨rfl, rfl, rfl, rfl, ⟨n, hc⟩, same_refl c, fun _ => rfl⟩

/-- element-level operations on one vector; element arguments are one-row trees -/
inductive Op where
  | push (e : Cols) | pop | insert (i : Nat) (e : Cols) | replace (i : Nat) (e : Cols)
  | remove (i : Nat) | swapRemove (i : Nat) | truncate (k : Nat) | clear
  | retain (keep : Nat → Bool) | retainMut (keep : Nat → Bool) (touch : Nat → Nat → Option (Nat × Nat))
  | extend (es : List Cols) | resize (k : Nat) (e : Cols)
  | splitOff (i : Nat) | extendFromSlice (d : Cols) | append (d : Cols)

/-- arguments have the container's shape; elements are single rows -/
def Op.wf (c : Cols) : Op → Prop
  | .push e | .insert _ e | .replace _ e | .resize _ e => e.lock 1 ∧ c.same e
  | .extend es => ∀ e ∈ es, e.lock 1 ∧ c.same e
  | .extendFromSlice d | .append d => (∃ k, d.lock k) ∧ c.same d
  | _ => True

def mstep (dr : Bool) (c : Cols) : Op → Model.Out
  | .push e => Model.push c e | .pop => Model.pop c | .insert i e => Model.insert dr c i e
  | .replace i e => Model.replace dr c i e | .remove i => Model.remove c i
  | .swapRemove i => Model.swapRemove c i | .truncate k => Model.truncate dr c k
  | .clear => Model.clear dr c | .retain keep => Model.retain dr c keep none (fun _ _ => none)
  | .retainMut keep touch => Model.retain dr c keep none touch
  | .extend es => Model.extend c es | .resize k e => Model.resize dr c k e
  | .splitOff i => Model.splitOff c i | .extendFromSlice d => Model.extendFromSlice c d
  | .append d => Model.append c d

def sstep (dr : Bool) (rs : List Elem) : Op → Spec.Out
  | .push e => Spec.push rs e.rows | .pop => Spec.pop rs | .insert i e => Spec.insert dr rs i e.rows
  | .replace i e => Spec.replace dr rs i e.rows | .remove i => Spec.remove rs i
  | .swapRemove i => Spec.swapRemove rs i | .truncate k => Spec.truncate dr rs k
  | .clear => Spec.clear dr rs | .retain keep => Spec.retain dr rs keep none (fun _ _ => none)
  | .retainMut keep touch => Spec.retain dr rs keep none touch
  | .extend es => Spec.extend rs (es.map Cols.rows).flatten | .resize k e => Spec.resize dr rs k e.rows
  | .splitOff i => Spec.splitOff rs i | .extendFromSlice d => Spec.extendFromSlice rs d.rows
  | .append d => Spec.append rs d.rows

/-- every operation, with arbitrary (valid or invalid) arguments, refines `Vec<T>` -/
theorem step_refines (dr : Bool) (op : Op) (hc : c.lock n) (hw : op.wf c) :
    Refines c (mstep dr c op) (sstep dr c.rows op) := by
  cases op with
  | push e => exact push hc hw.1 hw.2
  | pop => exact pop hc
  | insert i e => exact insert dr i hc hw.1 hw.2
  | replace i e => exact replace dr i hc hw.1 hw.2
  | remove i => exact remove i hc
  | swapRemove i => exact swapRemove i hc
  | truncate k => exact truncate dr k hc
  | clear => exact clear dr hc
  | retain keep => exact (retain dr keep hc).1
  | retainMut keep touch => exact (retain_mut dr keep touch hc).1
  | extend es => exact extend es c n hc hw
  | resize k e => exact resize dr k hc hw.1 hw.2
  | splitOff i => exact splitOff i hc
  | extendFromSlice d =>
    obtain ⟨⟨k, hk⟩, hs⟩ := hw
    exact extendFromSlice hc hk hs
  | append d =>
    obtain ⟨⟨k, hk⟩, hs⟩ := hw
    exact (append hc hk hs).1

theorem wf_same {c c' : Cols} (h : c.same c') (op : Op) (hw : op.wf c) : op.wf c' := by
  have tr : ∀ {x : Cols}, c.same x → c'.same x := same_trans _ _ _ (same_symm _ _ h)
  cases op with
  | push | insert | replace | resize | extendFromSlice | append => exact ⟨hw.1, tr hw.2⟩
  | extend => exact fun e he => ⟨(hw e he).1, tr (hw e he).2⟩
  | _ => trivial

/-- the observable part of one call -/
def obsM (o : Model.Out) : Bool × Option (List Elem) × Bool := (o.panicked, o.ret.map Cols.rows, o.isNone)
def obsS (o : Spec.Out) : Bool × Option (List Elem) × Bool := (o.panicked, o.ret, o.isNone)

def mrun (dr : Bool) : Cols → List Op → List (Bool × Option (List Elem) × Bool) × Cols
  | c, [] => ([], c)
  | c, op :: ops => let o := mstep dr c op; let r := mrun dr o.st ops; (obsM o :: r.1, r.2)

def srun (dr : Bool) : List Elem → List Op → List (Bool × Option (List Elem) × Bool) × List Elem
  | rs, [] => ([], rs)
  | rs, op :: ops => let o := sstep dr rs op; let r := srun dr o.st ops; (obsS o :: r.1, r.2)

/-- **C01, histories.**  For every finite sequence of operations with arbitrary arguments,
    started from any lockstep container of any shape: the sequence of observations (panic
    flag, returned value, `None`) and the final contents are those of the same sequence on
    the `Vec<T>` of rows; and the final container is in lockstep (C02). -/
theorem history (dr : Bool) : ∀ (ops : List Op) (c : Cols) (n : Nat), c.lock n → (∀ op ∈ ops, op.wf c) →
    (mrun dr c ops).1 = (srun dr c.rows ops).1 ∧ (mrun dr c ops).2.rows = (srun dr c.rows ops).2 ∧
      (∃ m, (mrun dr c ops).2.lock m) ∧ c.same (mrun dr c ops).2
  | [], c, n, hc, _ => ⟨rfl, rfl, ⟨n, hc⟩, same_refl c⟩
  | op :: ops, c, n, hc, hw => by
    have h := step_refines dr op hc (hw op (.head _))
    obtain ⟨m, hm⟩ := h.lock
    have ih := history dr ops (mstep dr c op).st m hm fun o ho => wf_same h.same o (hw o (.tail _ ho))
    rw [h.st] at ih
    refine ⟨List.cons_eq_cons.mpr ⟨?_, ih.1⟩, ih.2.1, ih.2.2.1, same_trans _ _ _ h.same ih.2.2.2⟩
    rw [obsM, obsS, h.panicked, h.ret, h.isNone]

/-- from `new()`: the empty container of any well-formed shape is in lockstep with no rows -/
theorem empty_lock : ∀ sh : Shape, sh.wf → sh.empty.lock 0
  | .leaf _, _ => lock_leaf.mpr rfl
  | .nest [], h => absurd rfl (Shape.wf_nest.mp h).1
  | .nest (f :: fs), h => lock_nest.mpr ⟨nofun, go (f :: fs) (Shape.wf_nest.mp h).2⟩
where go : ∀ fs : List Shape, (∀ f ∈ fs, f.wf) → ∀ c ∈ Shape.fill.fillL [] fs, c.lock 0
  | [], _ => nofun
  | f :: fs, h => List.forall_mem_cons.mpr ⟨empty_lock f (h f (.head _)), go fs fun x hx => h x (.tail _ hx)⟩

/-! ## non-vacuity: a concrete 3-field, nested container of length 2 meets the hypotheses -/

def exC : Cols := .nest [.leaf [8, 16], .nest [.leaf [9, 17], .leaf [10, 18]], .leaf [11, 19]]
def exE : Cols := .nest [.leaf [24], .nest [.leaf [25], .leaf [26]], .leaf [27]]
theorem exC_lock : exC.lock 2 := by simp [exC]
theorem exE_lock : exE.lock 1 := by simp [exE]
theorem exC_same : exC.same exE := by simp [exC, exE, Cols.same, Cols.same.sameL]
example : exC.lock 2 ∧ exE.lock 1 ∧ exC.same exE := ⟨exC_lock, exE_lock, exC_same⟩

/- `retain_mut` with a writing callback on the same container: the second call overwrites leaf 2 of the element it is shown
   with 99 and keeps it, the first element is rejected — on the field arrays and on the array of structs alike -/
example : (Model.retain false exC (fun i => i != 0) none (fun k _ => if k = 1 then some (2, 99) else none)).st.rows.map Elem.ids =
    (Spec.retain false exC.rows (fun i => i != 0) none (fun k _ => if k = 1 then some (2, 99) else none)).st.map Elem.ids ∧
    (Model.retain false exC (fun i => i != 0) none (fun k _ => if k = 1 then some (2, 99) else none)).st.flat = [16, 17, 99, 19] := by
  decide +kernel
example : (Model.insert false exC 1 exE).st.rows = (Spec.insert false exC.rows 1 exE.rows).st :=
  (insert false 1 exC_lock exE_lock exC_same).st

/-! ## the same, for the methods *as extracted from /repo on this run*

`Sk.runElem dr Extracted.sk_… c args` is the outcome computed from the template the translator
recovered from the generated code (validated against the real generators on eight struct
shapes).  These are the statements about the code itself; the hand-written `Model.*`
functions are intermediate. -/

/-- outcome of the extracted method refines the std operation -/
def RefinesX (c : Cols) (o : Option Model.Out) (s : Spec.Out) : Prop := ∃ m, o = some m ∧ Refines c m s

section
open Soa.Sk Soa.Extracted

theorem push_extracted (dr : Bool) (hc : c.lock n) (he : e.lock 1) (hs : c.same e) :
    RefinesX c (runElem dr sk_PVec_push c [.elem e]) (Spec.push c.rows e.rows) :=
  ⟨_, push_tie dr c e, push hc he hs⟩

theorem insert_extracted (dr : Bool) (i : Nat) (hc : c.lock n) (he : e.lock 1) (hs : c.same e) :
    RefinesX c (runElem dr sk_PVec_insert c [.nat i, .elem e]) (Spec.insert dr c.rows i e.rows) :=
  ⟨_, insert_tie dr i hc he hs, insert dr i hc he hs⟩

theorem replace_extracted (dr : Bool) (i : Nat) (hc : c.lock n) (he : e.lock 1) (hs : c.same e) :
    RefinesX c (runElem dr sk_PVec_replace c [.nat i, .elem e]) (Spec.replace dr c.rows i e.rows) :=
  ⟨_, replace_tie dr i hc he hs, replace dr i hc he hs⟩

theorem remove_extracted (dr : Bool) (i : Nat) (hc : c.lock n) :
    RefinesX c (runElem dr sk_PVec_remove c [.nat i]) (Spec.remove c.rows i) :=
  ⟨_, remove_tie dr i c, remove i hc⟩

theorem swapRemove_extracted (dr : Bool) (i : Nat) (hc : c.lock n) :
    RefinesX c (runElem dr sk_PVec_swap_remove c [.nat i]) (Spec.swapRemove c.rows i) :=
  ⟨_, swap_remove_tie dr i c, swapRemove i hc⟩

theorem pop_extracted (dr : Bool) (hc : c.lock n) :
    RefinesX c (runElem dr sk_PVec_pop c []) (Spec.pop c.rows) :=
  ⟨_, pop_tie dr c, pop hc⟩

theorem splitOff_extracted (dr : Bool) (i : Nat) (hc : c.lock n) :
    RefinesX c (runElem dr sk_PVec_split_off c [.nat i]) (Spec.splitOff c.rows i) :=
  ⟨_, split_off_tie dr i c, splitOff i hc⟩

theorem append_extracted (dr : Bool) {d : Cols} {k : Nat} (hc : c.lock n) (hd : d.lock k) (hs : c.same d) :
    ∃ m, runElem dr sk_PVec_append c [.cont d] = some m ∧ m = Model.append c d :=
  ⟨_, append_tie dr c d, rfl⟩

theorem toVec_extracted (hc : c.lock n) :
    RefinesX c (runToVec sk_PSlice_a_to_vec c) (Spec.toVec c.rows) ∧
    RefinesX c (runToVec sk_PSliceMut_a_to_vec c) (Spec.toVec c.rows) :=
  ⟨⟨_, (to_vec_tie c).1, toVec hc⟩, ⟨_, (to_vec_tie c).2, toVec hc⟩⟩

end

/-- non-vacuity: the extracted `insert` on the concrete container really computes the std result -/
example : ((Soa.Sk.runElem false Soa.Extracted.sk_PVec_insert exC [.nat 1, .elem exE]).map (·.st.rows)) =
    some (Spec.insert false exC.rows 1 exE.rows).st := by
  rw [Soa.Sk.insert_tie false 1 exC_lock exE_lock exC_same]
  exact congrArg some (insert false 1 exC_lock exE_lock exC_same).st

/-- **text pin**: the generated functions this property's hand-written model describes have, in
    /repo today, exactly the text the model was written from (`Soa/Model/Pinned.lean`) -/
theorem bodies_pinned : Soa.Extracted.bodies_C01 = Soa.Model.pinned_C01 := rfl

theorem bodies_pinned_nonempty : Soa.Model.pinned_C01.length ≥ 4 := by decide

end Soa.C01
