import Soa.Ops
namespace Soa

/-- a view / iterator / pointer bundle is a container of *parent positions* with the parent's shape -/
def Cols.const (is : List Nat) : Cols → Cols
  | .leaf _ => .leaf is
  | .nest fs => .nest (constL is fs)
where constL (is : List Nat) : List Cols → List Cols
  | [] => []
  | c :: cs => c.const is :: constL is cs

theorem same_const (is : List Nat) : ∀ c : Cols, c.same (c.const is)
  | .leaf _ => trivial
  | .nest fs => go fs
where go : ∀ fs : List Cols, Cols.same.sameL fs (Cols.const.constL is fs)
  | [] => trivial
  | c :: cs => ⟨same_const is c, go cs⟩

theorem lock_const (is : List Nat) : ∀ c : Cols, (∃ n, c.lock n) → (c.const is).lock is.length
  | .leaf _, _ => lock_leaf.mpr rfl
  | .nest [], ⟨_, h⟩ => absurd rfl (lock_nest.mp h).1
  | .nest (f :: fs), ⟨n, h⟩ => lock_nest.mpr ⟨nofun, go n (f :: fs) (lock_nest.mp h).2⟩
where go (n : Nat) : ∀ fs : List Cols, (∀ c ∈ fs, c.lock n) → ∀ d ∈ Cols.const.constL is fs, d.lock is.length
  | [], _ => nofun
  | c :: cs, h => List.forall_mem_cons.mpr ⟨lock_const is c ⟨n, h c (.head _)⟩, go n cs fun x hx => h x (.tail _ hx)⟩

theorem read_view (is : List Nat) (n : Nat) (c : Cols) (hc : c.lock n) (hb : is.all (· < n) = true) :
    ((c.apply2 (pickOp is) (c.const is)).out.rows) = is.filterMap (c.rows[·]?) := by
  have hl := rows_len n c hc
  have h := (apply2_ok (pickOp is) n is.length (by simp [pickOp, hb]) c (c.const is) hc
      (lock_const is c ⟨n, hc⟩) (same_const is c)).2
  simp only [pickOp, PolyOp.ofTotal_run, hl, hb, ↓reduceIte, Option.some.injEq, Prod.mk.injEq] at h
  exact h.2.symm

#print axioms read_view
end Soa
