namespace Soa

inductive Cols where
  | leaf (xs : List Nat)
  | nest (fs : List Cols)
  deriving Repr, Inhabited

inductive Elem where
  | leaf (v : Nat)
  | nest (fs : List Elem)
  deriving Repr, Inhabited

/-- polymorphic partial list operation with an argument list and a result list,
    natural in the element type; failure is decided by the two lengths. -/
structure PolyOp where
  run : {α : Type} → List α → List α → Option (List α × List α)
  fails : Nat → Nat → Bool
  fail_iff : ∀ {α : Type} (xs as : List α), (run xs as).isNone = fails xs.length as.length
  nat : ∀ {α β : Type} (f : α → β) (xs as : List α),
    run (xs.map f) (as.map f) = (run xs as).map (fun r => (r.1.map f, r.2.map f))

def Cols.lock (n : Nat) : Cols → Prop
  | .leaf xs => xs.length = n
  | .nest fs => fs ≠ [] ∧ ∀ c ∈ fs, c.lock n

/-- same tree shape -/
def Cols.same : Cols → Cols → Prop
  | .leaf _, .leaf _ => True
  | .nest fs, .nest gs => sameL fs gs
  | _, _ => False
where sameL : List Cols → List Cols → Prop
  | [], [] => True
  | c :: cs, d :: ds => c.same d ∧ sameL cs ds
  | _, _ => False

def Cols.rows : Cols → List Elem
  | .leaf xs => xs.map Elem.leaf
  | .nest fs => (rowsL fs).map Elem.nest
where rowsL : List Cols → List (List Elem)
  | [] => []
  | [c] => c.rows.map (fun e => [e])
  | c :: c' :: cs => List.zipWith (· :: ·) c.rows (rowsL (c' :: cs))

structure Res where
  st : Cols
  out : Cols
  panicked : Bool

/-- generated code: the same std call on every field, in order, with that field's
    argument column; stop at the first panic (later fields untouched). -/
def Cols.apply2 (op : PolyOp) : Cols → Cols → Res
  | .leaf xs, .leaf as => match op.run xs as with
    | some r => ⟨.leaf r.1, .leaf r.2, false⟩
    | none => ⟨.leaf xs, .leaf as, true⟩
  | .nest fs, .nest gs => let r := apply2L op fs gs; ⟨.nest r.1, .nest r.2.1, r.2.2⟩
  | c, a => ⟨c, a, true⟩
where apply2L (op : PolyOp) : List Cols → List Cols → List Cols × List Cols × Bool
  | c :: cs, a :: as =>
    let r := c.apply2 op a
    if r.panicked then (r.st :: cs, r.out :: as, true) else
      let r' := apply2L op cs as
      (r.st :: r'.1, r.out :: r'.2.1, r'.2.2)
  | cs, as => (cs, as, false)

@[simp] theorem lock_leaf : (Cols.leaf xs).lock n ↔ xs.length = n := by simp [Cols.lock]
@[simp] theorem lock_nest : (Cols.nest fs).lock n ↔ fs ≠ [] ∧ ∀ c ∈ fs, c.lock n := by simp [Cols.lock]

theorem zip_comm_aux (op : PolyOp) {α β γ : Type} (f : α → β → γ) (zs ws : List (α × β)) :
    op.run (zs.map (fun p => f p.1 p.2)) (ws.map (fun p => f p.1 p.2)) =
      (match op.run (zs.map Prod.fst) (ws.map Prod.fst), op.run (zs.map Prod.snd) (ws.map Prod.snd) with
       | some a, some b => some (List.zipWith f a.1 b.1, List.zipWith f a.2 b.2)
       | _, _ => none) := by
  rw [op.nat, op.nat, op.nat]
  cases op.run zs ws with
  | none => simp
  | some r => simp [List.zipWith_map_left, List.zipWith_map_right, List.zipWith_self]

theorem zip_comm (op : PolyOp) {α β γ : Type} (f : α → β → γ)
    (xs : List α) (ys : List β) (as : List α) (bs : List β)
    (h : xs.length = ys.length) (h' : as.length = bs.length) :
    op.run (List.zipWith f xs ys) (List.zipWith f as bs) =
      (match op.run xs as, op.run ys bs with
       | some a, some b => some (List.zipWith f a.1 b.1, List.zipWith f a.2 b.2)
       | _, _ => none) := by
  have := zip_comm_aux op f (xs.zip ys) (as.zip bs)
  rwa [List.map_fst_zip (Nat.le_of_eq h), List.map_snd_zip (Nat.le_of_eq h.symm), List.map_fst_zip (Nat.le_of_eq h'),
    List.map_snd_zip (Nat.le_of_eq h'.symm),
    List.zip_eq_zipWith, List.zip_eq_zipWith, List.map_zipWith, List.map_zipWith] at this

theorem same_nest : (Cols.nest fs).same (Cols.nest gs) ↔ Cols.same.sameL fs gs := by simp [Cols.same]
theorem sameL_cons : Cols.same.sameL (c :: cs) (d :: ds) ↔ c.same d ∧ Cols.same.sameL cs ds := by
  simp [Cols.same.sameL]

theorem rows_len (n : Nat) : ∀ c : Cols, c.lock n → c.rows.length = n
  | .leaf xs, h => by rw [Cols.rows, List.length_map]; exact lock_leaf.mp h
  | .nest fs, h => by rw [Cols.rows, List.length_map]; exact rowsL_len n fs (lock_nest.mp h).1 (lock_nest.mp h).2
where rowsL_len (n : Nat) : ∀ fs : List Cols, fs ≠ [] → (∀ c ∈ fs, c.lock n) → (Cols.rows.rowsL fs).length = n
  | [], h, _ => absurd rfl h
  | [c], _, h => by rw [Cols.rows.rowsL, List.length_map]; exact rows_len n c (h c (.head _))
  | c :: c' :: cs, _, h => by
    rw [Cols.rows.rowsL, List.length_zipWith, rows_len n c (h c (.head _)),
      rowsL_len n (c' :: cs) nofun fun x hx => h x (.tail _ hx), Nat.min_self]

theorem rowsL_cons (c : Cols) (cs : List Cols) (h : cs ≠ []) :
    Cols.rows.rowsL (c :: cs) = List.zipWith (· :: ·) c.rows (Cols.rows.rowsL cs) := by
  cases cs with
  | nil => exact absurd rfl h
  | cons d ds => rfl

theorem sameL_ne_nil : ∀ {fs gs : List Cols}, Cols.same.sameL fs gs → fs ≠ [] → gs ≠ []
  | _ :: _, _ :: _, _, _ => nofun
  | [], _, _, h => absurd rfl h

theorem PolyOp.run_some (op : PolyOp) {n k : Nat} (hf : op.fails n k = false) {α : Type} (xs as : List α)
    (hx : xs.length = n) (ha : as.length = k) : ∃ r, op.run xs as = some r := by
  have := op.fail_iff xs as
  rw [hx, ha, hf] at this
  exact Option.isSome_iff_exists.mp (by simpa using this)

theorem PolyOp.run_none (op : PolyOp) {n k : Nat} (hf : op.fails n k = true) {α : Type} (xs as : List α)
    (hx : xs.length = n) (ha : as.length = k) : op.run xs as = none := by
  have := op.fail_iff xs as
  rwa [hx, ha, hf, Option.isNone_iff_eq_none] at this

theorem PolyOp.len_eq (op : PolyOp) {α β : Type} (xs : List α) (as : List α) (ys : List β) (bs : List β)
    (h1 : xs.length = ys.length) (h2 : as.length = bs.length) :
    (op.run xs as).map (fun r => (r.1.length, r.2.length)) =
      (op.run ys bs).map (fun r => (r.1.length, r.2.length)) := by
  have e : ∀ {γ : Type} (zs ws : List γ), (op.run zs ws).map (fun r => (r.1.length, r.2.length)) =
      (op.run (List.replicate zs.length ()) (List.replicate ws.length ())).map (fun r => (r.1.length, r.2.length)) := by
    intro γ zs ws
    -- naturality along `fun _ => ()`
    rw [← List.map_const', ← List.map_const', op.nat]
    cases op.run zs ws <;> simp
  rw [e xs as, e ys bs, h1, h2]

/-- **transposition, in full**: where the std operation does not fail on the lengths, the same call on every field
    does not panic, computes the operation on the rows, keeps the shape, and leaves all field arrays of the state
    (of the result) with one length — `m1`, `m2`: what the operation makes of lengths `n`, `k` -/
theorem apply2_spec (op : PolyOp) (n k m1 m2 : Nat) (hf : op.fails n k = false)
    (hlen : ∀ {α : Type} (xs as : List α) (r : List α × List α), xs.length = n → as.length = k →
      op.run xs as = some r → r.1.length = m1 ∧ r.2.length = m2) :
    ∀ c a : Cols, c.lock n → a.lock k → c.same a →
      (c.apply2 op a).panicked = false ∧
      op.run c.rows a.rows = some ((c.apply2 op a).st.rows, (c.apply2 op a).out.rows) ∧
      (c.apply2 op a).st.lock m1 ∧ (c.apply2 op a).out.lock m2 ∧
      c.same (c.apply2 op a).st ∧ c.same (c.apply2 op a).out
  | .leaf xs, .leaf as, hc, ha, _ => by
    obtain ⟨r, hr⟩ := op.run_some hf xs as (lock_leaf.mp hc) (lock_leaf.mp ha)
    have hl := hlen xs as r (lock_leaf.mp hc) (lock_leaf.mp ha) hr
    rw [Cols.apply2, hr]
    exact ⟨rfl, by rw [Cols.rows, Cols.rows, op.nat, hr]; rfl, lock_leaf.mpr hl.1, lock_leaf.mpr hl.2, trivial, trivial⟩
  | .nest fs, .nest gs, hc, ha, hs => by
    rw [lock_nest] at hc ha
    obtain ⟨h1, h2, h3, h4, h5, h6⟩ := go fs gs hc.2 ha.2 hs
    refine ⟨h1, ?_, lock_nest.mpr ⟨sameL_ne_nil h5 hc.1, h3⟩, lock_nest.mpr ⟨sameL_ne_nil h6 hc.1, h4⟩, h5, h6⟩
    rw [Cols.rows, Cols.rows, op.nat, h2 hc.1]; rfl
-- `rowsL [] = []` has forgotten the common length, so the row equation holds for a non-empty field list only
where go : ∀ fs gs : List Cols, (∀ c ∈ fs, c.lock n) → (∀ a ∈ gs, a.lock k) → Cols.same.sameL fs gs →
    (Cols.apply2.apply2L op fs gs).2.2 = false ∧
    (fs ≠ [] → op.run (Cols.rows.rowsL fs) (Cols.rows.rowsL gs) =
      some (Cols.rows.rowsL (Cols.apply2.apply2L op fs gs).1, Cols.rows.rowsL (Cols.apply2.apply2L op fs gs).2.1)) ∧
    (∀ d ∈ (Cols.apply2.apply2L op fs gs).1, d.lock m1) ∧ (∀ d ∈ (Cols.apply2.apply2L op fs gs).2.1, d.lock m2) ∧
    Cols.same.sameL fs (Cols.apply2.apply2L op fs gs).1 ∧ Cols.same.sameL fs (Cols.apply2.apply2L op fs gs).2.1
  | [], [], _, _, _ => ⟨rfl, nofun, nofun, nofun, trivial, trivial⟩
  | c :: cs, a :: as, hc, ha, hs => by
    have hcs : ∀ x ∈ cs, x.lock n := fun x hx => hc x (.tail _ hx)
    have has : ∀ x ∈ as, x.lock k := fun x hx => ha x (.tail _ hx)
    obtain ⟨i1, i2, i3, i4, i5, i6⟩ := apply2_spec op n k m1 m2 hf hlen c a (hc c (.head _)) (ha a (.head _)) hs.1
    obtain ⟨j1, j2, j3, j4, j5, j6⟩ := go cs as hcs has hs.2
    rw [Cols.apply2.apply2L]
    simp only [i1, Bool.false_eq_true, ↓reduceIte, List.forall_mem_cons, sameL_cons]
    refine ⟨j1, fun _ => ?_, ⟨i3, j3⟩, ⟨i4, j4⟩, ⟨i5, j5⟩, ⟨i6, j6⟩⟩
    by_cases hne : cs = []
    · -- the last field: its rows, each as a one-field struct
      subst hne
      cases as with
      | nil => rw [Cols.rows.rowsL, Cols.rows.rowsL, op.nat, i2]; rfl
      | cons _ _ => exact hs.2.elim
    · -- a field and the struct of the others: the operation commutes with zipping them
      have hna := sameL_ne_nil hs.2 hne
      rw [rowsL_cons c cs hne, rowsL_cons a as hna, rowsL_cons _ _ (sameL_ne_nil j5 hne),
        rowsL_cons _ _ (sameL_ne_nil j6 hne),
        zip_comm op _ _ _ _ _ ((rows_len n c (hc c (.head _))).trans (rows_len.rowsL_len n cs hne hcs).symm)
          ((rows_len k a (ha a (.head _))).trans (rows_len.rowsL_len k as hna has).symm), i2, j2 hne]

theorem apply2_run (op : PolyOp) (n k : Nat) (hf : op.fails n k = false) (c a : Cols) (hc : c.lock n) (ha : a.lock k)
    (hs : c.same a) : ∃ s, op.run c.rows a.rows = some s ∧ (c.apply2 op a).panicked = false ∧
      (c.apply2 op a).st.rows = s.1 ∧ (c.apply2 op a).out.rows = s.2 ∧
      (c.apply2 op a).st.lock s.1.length ∧ (c.apply2 op a).out.lock s.2.length ∧
      c.same (c.apply2 op a).st ∧ c.same (c.apply2 op a).out := by
  obtain ⟨s, hr⟩ := op.run_some hf c.rows a.rows (rows_len n c hc) (rows_len k a ha)
  -- the lengths of the results are those the operation gives on the rows: they depend on the argument lengths only
  obtain ⟨h1, h2, h3⟩ := apply2_spec op n k s.1.length s.2.length hf (fun xs as r h1 h2 h => by
    have := op.len_eq xs as c.rows a.rows (by rw [h1, rows_len n c hc]) (by rw [h2, rows_len k a ha])
    simpa [h, hr] using this) c a hc ha hs
  rw [hr, Option.some.injEq] at h2
  exact ⟨s, hr, h1, by rw [h2], by rw [h2], h3⟩

theorem apply2_ok (op : PolyOp) (n k : Nat) (hf : op.fails n k = false) :
    ∀ c a : Cols, c.lock n → a.lock k → c.same a →
      (c.apply2 op a).panicked = false ∧
      op.run c.rows a.rows = some ((c.apply2 op a).st.rows, (c.apply2 op a).out.rows) := by
  intro c a hc ha hs
  obtain ⟨s, hr, hp, h1, h2, _⟩ := apply2_run op n k hf c a hc ha hs
  exact ⟨hp, by rw [hr, h1, h2]⟩

end Soa
