import Soa.Model.SkelView
import Soa.Lemmas.SkelRead.C10
import Soa.Lemmas.Refine
/-!
# Pointer bundles: the extracted methods are the std raw-pointer method on every component

On a bundle whose components all designate position `p` (with one null flag), every
offsetting method of `ptr.rs` *as extracted from /repo* yields a bundle whose components all
designate `p ± count`; the conversions between views, references and bundles keep the
position; `is_null` is "some component is null" on *any* bundle; a read is a bitwise copy of
the row and a write stores the value in exactly that row without destroying anything.
-/
namespace Soa.Sk
open View Soa.Extracted Soa.Sk.Expected

/-- `is_null()` of both bundle types, for every bundle (uniform or not) -/
theorem is_null_tie (t : VT LV) :
    runIsNull sk_PPtr_is_null t = some (t.any isNullLV) ∧ runIsNull sk_PPtrMut_is_null t = some (t.any isNullLV) := by
  have h1 : sk_PPtr_is_null.name = "is_null" := rfl
  have h2 : sk_PPtrMut_is_null.name = "is_null" := rfl
  rw [runIsNull, runIsNull, read_PPtr_is_null, read_PPtrMut_is_null, exp_PPtr_is_null, exp_PPtrMut_is_null]
  simp [h1, h2]

section uniform
variable (sh : Shape) (hw : sh.wf)
include hw

macro "ptr_run" rd:ident ex:ident nm:term : tactic => `(tactic| (
  have hn := $nm
  simp only [runView, $rd:ident, $ex:ident, hn, runViewSk, itemExpr, nestOkView, subject, isSliceFromRawParts,
    mapR_uniform _ _ _ ‹Shape.wf _›, first_uniform _ _ ‹Shape.wf _›, any_uniform _ _ _ ‹Shape.wf _›, viewLeaf, vNat, vInt,
    isEmptyLV, isNullLV]
  simp [R.bind, R.map]))

/-- `add`, `wrapping_add` (both bundle types): every component moves by `+k` -/
theorem add_tie (p : Int) (nl : Bool) (k : Nat) :
    runView sk_PPtr_add (VT.uniform (.ptr p nl) sh) [.nat k] = .ok (.one (VT.uniform (.ptr (p + k) nl) sh)) ∧
    runView sk_PPtr_wrapping_add (VT.uniform (.ptr p nl) sh) [.nat k] = .ok (.one (VT.uniform (.ptr (p + k) nl) sh)) ∧
    runView sk_PPtrMut_add (VT.uniform (.ptr p nl) sh) [.nat k] = .ok (.one (VT.uniform (.ptr (p + k) nl) sh)) ∧
    runView sk_PPtrMut_wrapping_add (VT.uniform (.ptr p nl) sh) [.nat k] = .ok (.one (VT.uniform (.ptr (p + k) nl) sh)) := by
  refine ⟨?_, ?_, ?_, ?_⟩
  · rw [runView_plain read_PPtr_add (nestOkView_call ..) hw rfl, viewLeaf]; rfl
  · rw [runView_plain read_PPtr_wrapping_add (nestOkView_call ..) hw rfl, viewLeaf]; rfl
  · rw [runView_plain read_PPtrMut_add (nestOkView_call ..) hw rfl, viewLeaf]; rfl
  · rw [runView_plain read_PPtrMut_wrapping_add (nestOkView_call ..) hw rfl, viewLeaf]; rfl

/-- `sub`, `wrapping_sub`: every component moves by `-k` -/
theorem sub_tie (p : Int) (nl : Bool) (k : Nat) :
    runView sk_PPtr_sub (VT.uniform (.ptr p nl) sh) [.nat k] = .ok (.one (VT.uniform (.ptr (p - k) nl) sh)) ∧
    runView sk_PPtr_wrapping_sub (VT.uniform (.ptr p nl) sh) [.nat k] = .ok (.one (VT.uniform (.ptr (p - k) nl) sh)) ∧
    runView sk_PPtrMut_sub (VT.uniform (.ptr p nl) sh) [.nat k] = .ok (.one (VT.uniform (.ptr (p - k) nl) sh)) ∧
    runView sk_PPtrMut_wrapping_sub (VT.uniform (.ptr p nl) sh) [.nat k] = .ok (.one (VT.uniform (.ptr (p - k) nl) sh)) := by
  refine ⟨?_, ?_, ?_, ?_⟩
  · rw [runView_plain read_PPtr_sub (nestOkView_call ..) hw rfl, viewLeaf]; rfl
  · rw [runView_plain read_PPtr_wrapping_sub (nestOkView_call ..) hw rfl, viewLeaf]; rfl
  · rw [runView_plain read_PPtrMut_sub (nestOkView_call ..) hw rfl, viewLeaf]; rfl
  · rw [runView_plain read_PPtrMut_wrapping_sub (nestOkView_call ..) hw rfl, viewLeaf]; rfl

/-- `offset`, `wrapping_offset`: every component moves by the signed count -/
theorem offset_tie (p : Int) (nl : Bool) (k : Int) :
    runView sk_PPtr_offset (VT.uniform (.ptr p nl) sh) [.int k] = .ok (.one (VT.uniform (.ptr (p + k) nl) sh)) ∧
    runView sk_PPtr_wrapping_offset (VT.uniform (.ptr p nl) sh) [.int k] = .ok (.one (VT.uniform (.ptr (p + k) nl) sh)) ∧
    runView sk_PPtrMut_offset (VT.uniform (.ptr p nl) sh) [.int k] = .ok (.one (VT.uniform (.ptr (p + k) nl) sh)) ∧
    runView sk_PPtrMut_wrapping_offset (VT.uniform (.ptr p nl) sh) [.int k] = .ok (.one (VT.uniform (.ptr (p + k) nl) sh)) := by
  refine ⟨?_, ?_, ?_, ?_⟩
  · rw [runView_plain read_PPtr_offset (nestOkView_call ..) hw rfl, viewLeaf]; rfl
  · rw [runView_plain read_PPtr_wrapping_offset (nestOkView_call ..) hw rfl, viewLeaf]; rfl
  · rw [runView_plain read_PPtrMut_offset (nestOkView_call ..) hw rfl, viewLeaf]; rfl
  · rw [runView_plain read_PPtrMut_wrapping_offset (nestOkView_call ..) hw rfl, viewLeaf]; rfl

/-- const ↔ mut casts keep every component -/
theorem cast_tie (p : Int) (nl : Bool) :
    runView sk_PPtr_as_mut_ptr (VT.uniform (.ptr p nl) sh) [] = .ok (.one (VT.uniform (.ptr p nl) sh)) ∧
    runView sk_PPtrMut_as_ptr (VT.uniform (.ptr p nl) sh) [] = .ok (.one (VT.uniform (.ptr p nl) sh)) := by
  refine ⟨?_, ?_⟩
  · rw [runView_plain read_PPtr_as_mut_ptr (nestOkView_cast ..) hw rfl, viewLeaf]; rfl
  · rw [runView_plain read_PPtrMut_as_ptr (nestOkView_cast ..) hw rfl, viewLeaf]; rfl

/-- bundles obtained from a vector, a view or an element reference designate its first element / that element -/
theorem as_ptr_tie (n : Nat) (w : Win) (p : Int) :
    runView sk_PVec_as_ptr (VT.uniform (.len n) sh) [] = .ok (.one (VT.uniform (.ptr 0 false) sh)) ∧
    runView sk_PVec_as_mut_ptr (VT.uniform (.len n) sh) [] = .ok (.one (VT.uniform (.ptr 0 false) sh)) ∧
    runView sk_PSlice_a_as_ptr (VT.uniform (.win w) sh) [] = .ok (.one (VT.uniform (.ptr w.s false) sh)) ∧
    runView sk_PSliceMut_a_as_ptr (VT.uniform (.win w) sh) [] = .ok (.one (VT.uniform (.ptr w.s false) sh)) ∧
    runView sk_PSliceMut_a_as_mut_ptr (VT.uniform (.win w) sh) [] = .ok (.one (VT.uniform (.ptr w.s false) sh)) ∧
    runView sk_PRef_a_as_ptr (VT.uniform (.pos p) sh) [] = .ok (.one (VT.uniform (.ptr p false) sh)) ∧
    runView sk_PRefMut_a_as_ptr (VT.uniform (.pos p) sh) [] = .ok (.one (VT.uniform (.ptr p false) sh)) ∧
    runView sk_PRefMut_a_as_mut_ptr (VT.uniform (.pos p) sh) [] = .ok (.one (VT.uniform (.ptr p false) sh)) := by
  refine ⟨?_, ?_, ?_, ?_, ?_, ?_, ?_, ?_⟩
  · rw [runView_plain read_PVec_as_ptr (nestOkView_call ..) hw rfl, viewLeaf]; rfl
  · rw [runView_plain read_PVec_as_mut_ptr (nestOkView_call ..) hw rfl, viewLeaf]; rfl
  · rw [runView_plain read_PSlice_a_as_ptr (nestOkView_call ..) hw rfl, viewLeaf]; rfl
  · rw [runView_plain read_PSliceMut_a_as_ptr (nestOkView_call ..) hw rfl, viewLeaf]; rfl
  · rw [runView_plain read_PSliceMut_a_as_mut_ptr (nestOkView_call ..) hw rfl, viewLeaf]; rfl
  · rw [runView_plain read_PRef_a_as_ptr (nestOkView_cast ..) hw rfl, viewLeaf]; rfl
  · rw [runView_plain read_PRefMut_a_as_ptr (nestOkView_cast ..) hw rfl, viewLeaf]; rfl
  · rw [runView_plain read_PRefMut_a_as_mut_ptr (nestOkView_cast ..) hw rfl, viewLeaf]; rfl

/-- `as_ref()` / `as_mut()`: `None` exactly when the bundle is null, else references to the designated element -/
theorem as_ref_tie (p : Int) (nl : Bool) :
    runView sk_PPtr_as_ref (VT.uniform (.ptr p nl) sh) [] = (if nl then .ok .none_ else .ok (.one (VT.uniform (.pos p) sh))) ∧
    runView sk_PPtrMut_as_ref (VT.uniform (.ptr p nl) sh) [] = (if nl then .ok .none_ else .ok (.one (VT.uniform (.pos p) sh))) ∧
    runView sk_PPtrMut_as_mut (VT.uniform (.ptr p nl) sh) [] = (if nl then .ok .none_ else .ok (.one (VT.uniform (.pos p) sh))) := by
  have hN := fun (_ : true = true) => any_uniform isNullLV (.ptr p nl) sh hw
  refine ⟨?_, ?_, ?_⟩
  · rw [runView_lit read_PPtr_as_ref rfl rfl rfl (nestOkView_call ..) hw rfl hN, onUniform_nullNone, viewLeaf]
    cases nl <;> rfl
  · rw [runView_lit read_PPtrMut_as_ref rfl rfl rfl (nestOkView_call ..) hw rfl hN, onUniform_nullNone, viewLeaf]
    cases nl <;> rfl
  · rw [runView_lit read_PPtrMut_as_mut rfl rfl rfl (nestOkView_call ..) hw rfl hN, onUniform_nullNone, viewLeaf]
    cases nl <;> rfl

/-- `from_raw_parts(data, len)` / `from_raw_parts_mut`: the window `[p, p+len)` in every field -/
theorem from_raw_parts_tie (p len : Nat) (self : VT LV) :
    runView sk_PSlice_a_from_raw_parts self [.tree (VT.uniform (.ptr p false) sh), .nat len] =
      .ok (.one (VT.uniform (.win ⟨p, len⟩) sh)) ∧
    runView sk_PSliceMut_a_from_raw_parts_mut self [.tree (VT.uniform (.ptr p false) sh), .nat len] =
      .ok (.one (VT.uniform (.win ⟨p, len⟩) sh)) := by
  refine ⟨?_, ?_⟩
  · rw [runView_plain read_PSlice_a_from_raw_parts (nestOkView_path _ _ (by decide +kernel) (.inl rfl)) hw rfl, viewLeaf,
      if_pos (by decide +kernel)]
    simp [vNat]
  · rw [runView_plain read_PSliceMut_a_from_raw_parts_mut (nestOkView_path _ _ (by decide +kernel) (.inr rfl)) hw rfl, viewLeaf,
      if_pos (by decide +kernel)]
    simp [vNat]

end uniform

theorem runPtrRead_of {f : Fn} (hr : skOf f = .lit {} .elem (.init (.call f.name [] .none)) (.init (.call f.name [] .none)) false)
    (hm : isPtrRead f.name = true) (c : Cols) (p : Nat) :
    runPtrRead f c p = some { st := c, ret := some (Model.rowCols c p) } := by
  rw [runPtrRead, hr]
  simp [hm]

theorem ptr_read_tie (c : Cols) (p : Nat) :
    runPtrRead sk_PPtr_read c p = some { st := c, ret := some (Model.rowCols c p) } ∧
    runPtrRead sk_PPtr_read_volatile c p = some { st := c, ret := some (Model.rowCols c p) } ∧
    runPtrRead sk_PPtr_read_unaligned c p = some { st := c, ret := some (Model.rowCols c p) } ∧
    runPtrRead sk_PPtrMut_read c p = some { st := c, ret := some (Model.rowCols c p) } ∧
    runPtrRead sk_PPtrMut_read_volatile c p = some { st := c, ret := some (Model.rowCols c p) } ∧
    runPtrRead sk_PPtrMut_read_unaligned c p = some { st := c, ret := some (Model.rowCols c p) } :=
  ⟨runPtrRead_of read_PPtr_read rfl c p, runPtrRead_of read_PPtr_read_volatile rfl c p,
    runPtrRead_of read_PPtr_read_unaligned rfl c p, runPtrRead_of read_PPtrMut_read rfl c p,
    runPtrRead_of read_PPtrMut_read_volatile rfl c p, runPtrRead_of read_PPtrMut_read_unaligned rfl c p⟩

/-- a pointer write at an in-bounds position is `Model.replace` without its guard: the value is stored in exactly
    that row, the overwritten bits are handed back, nothing is destroyed (neither the slot nor `val`) -/
theorem ptr_write_tie (dr : Bool) {c e : Cols} {n : Nat} (p : Nat) (hc : c.lock n) (he : e.lock 1) (hs : c.same e) (hp : p < n) :
    runPtrWrite dr sk_PPtrMut_write c p e = some (Model.replace dr c p e) ∧
    runPtrWrite dr sk_PPtrMut_write_volatile c p e = some (Model.replace dr c p e) ∧
    runPtrWrite dr sk_PPtrMut_write_unaligned c p e = some (Model.replace dr c p e) := by
  have h1 : sk_PPtrMut_write.name = "write" := rfl
  have h2 : sk_PPtrMut_write_volatile.name = "write_volatile" := rfl
  have h3 : sk_PPtrMut_write_unaligned.name = "write_unaligned" := rfl
  have hg : ¬ p ≥ c.firstLen := by rw [firstLen_lock c n hc]; omega
  have hpn := (apply2_ok (replaceOp p) n 1 (by simp [replaceOp]; omega) c e hc he hs).1
  rw [runPtrWrite, runPtrWrite, runPtrWrite, read_PPtrMut_write, read_PPtrMut_write_volatile, read_PPtrMut_write_unaligned,
    exp_PPtrMut_write, exp_PPtrMut_write_volatile, exp_PPtrMut_write_unaligned]
  simp [isPtrWrite, h1, h2, h3, hpn, hg, moveInEv, Model.replace]

end Soa.Sk
