import Soa.Model.Loop
import Soa.Lemmas.LoopAttr
/-!
# One step of the interpreter of `Soa/Model/Loop.lean`, per syntactic form

What `eval` / `exec` do on each form the extracted statement trees are made of, so that a symbolic execution is
`simp only [lpstep, …]` (plus the facts of the case at hand) and never unfolds the interpreter.  The method names
are decided once, here; the statements speak of `env.M.len`, `env.ps`, … so they hold for every environment.

`simp` rewrites inside a continuation before the value it will be applied to is known.  So the statements that are
still to run (`rest`), the two branches of an `if` (`branch`) and the operator of a `.bin` (`binV`) stand behind a
name here, with a lemma for the moment they are applied: otherwise every suffix of a function body is executed on an
unknown machine once per statement before it, and every `match … | _ => .stuck …` on an unknown value has `simp` try
(and fail) to prove that no earlier pattern applies.

The proofs are `by rfl`, not `rfl`: a theorem given by the term `rfl` is unfolded a second time for the `defeq`
attribute, and comparing the method names by unfolding is slow (the tables of `callSelf` / `callOther` let
`String.reduceEq` do it).
-/
namespace Soa.Lp

variable (env : Env) (m : Mach)

attribute [lpstep] Res.bind_ok Res.bind_panic asParam asVar afterSelf List.getElem?_cons_zero List.getElem?_cons_succ
  List.head?_cons Option.bind_some Option.getD_some List.drop_succ_cons List.drop_zero Ev.empty_append

@[lpstep] theorem eval_num (n : Nat) : eval env (.num n) m = .ok (.nat n) m := by rfl
@[lpstep] theorem eval_var (x : String) :
    eval env (.var x) m = match lookup x m.locals with | some v => .ok v m | none => .stuck ("unbound " ++ x) := by rfl
@[lpstep] theorem eval_param (k : Nat) :
    eval env (.param k) m = match env.ps[k]? with | some v => .ok v m | none => .stuck "parameter" := by rfl

def binV (op : String) (va vb : V) (m : Mach) : Res V :=
  match va, vb with
  | .nat x, .nat y => (match arith op x y with | some v => .ok v m | none => .stuck ("arith " ++ op))
  | _, _ => .stuck ("operands of " ++ op)

@[lpstep] theorem eval_bin (op : String) (a b : Ex) :
    eval env (.bin op a b) m = (eval env a m).bind fun va m => (eval env b m).bind fun vb m => binV op va vb m := by rfl
@[lpstep] theorem binV_eq (x y : Nat) :
    binV ">" (.nat x) (.nat y) m = .ok (.bool (decide (x > y))) m ∧ binV "+" (.nat x) (.nat y) m = .ok (.nat (x + y)) m :=
  ⟨by rfl, by rfl⟩
/-- an underflow is outside the subset: the subtractions of the extracted trees come with their bound -/
theorem binV_sub {x y : Nat} (h : y ≤ x) (m : Mach) : binV "-" (.nat x) (.nat y) m = .ok (.nat (x - y)) m := by
  simp only [binV, arith, if_pos h]
@[lpstep] theorem eval_not (e : Ex) :
    eval env (.not e) m = (eval env e m).bind fun v m => match v with | .bool b => .ok (.bool (!b)) m | _ => .stuck "!" := by rfl
@[lpstep] theorem eval_range (a b : Ex) :
    eval env (.range a b) m = (eval env a m).bind fun va m => (eval env b m).bind fun vb m =>
      match va, vb with | .nat x, .nat y => .ok (.range x y) m | _, _ => .stuck "range" := by rfl
@[lpstep] theorem eval_self_call (mth : String) (args : List Ex) :
    eval env (.mcall .self_ mth args) m = (evalList env args m).bind fun vs m =>
      callSelf env mth vs (args.head?.bind asParam) (args.head?.bind asVar) m := by rfl
@[lpstep] theorem eval_var_call (x mth : String) (args : List Ex) :
    eval env (.mcall (.var x) mth args) m = (eval env (.var x) m).bind fun rv m => (evalList env args m).bind fun vs m =>
      callOther env (some x) rv mth vs (args.head?.bind asParam) (args.head?.bind asVar) m := by rfl
@[lpstep] theorem eval_param_call (k : Nat) (mth : String) (args : List Ex) :
    eval env (.mcall (.param k) mth args) m = (eval env (.param k) m).bind fun rv m => (evalList env args m).bind fun vs m =>
      callOther env none rv mth vs (args.head?.bind asParam) (args.head?.bind asVar) m := by rfl
@[lpstep] theorem eval_call_call (r : Ex) (mth' mth : String) (as args : List Ex) :
    eval env (.mcall (.mcall r mth' as) mth args) m =
      (eval env (.mcall r mth' as) m).bind fun rv m => (evalList env args m).bind fun vs m =>
        callOther env none rv mth vs (args.head?.bind asParam) (args.head?.bind asVar) m := by rfl
@[lpstep] theorem eval_app (k : Nat) (args : List Ex) :
    eval env (.app k args) m =
      (evalList env args m).bind fun vs m => match vs with | [v] => callClosure env v m | _ => .stuck "closure arity" := by rfl
@[lpstep] theorem evalList_nil : evalList env [] m = .ok [] m := by rfl
@[lpstep] theorem evalList_cons (e : Ex) (es : List Ex) :
    evalList env (e :: es) m = (eval env e m).bind fun v m => (evalList env es m).bind fun vs m => .ok (v :: vs) m := by rfl
@[lpstep] theorem eval_drop (e : Ex) :
    eval env (.fcall "::std::mem::drop" [e]) m = (eval env e m).bind fun v m =>
      .ok .unit { moveArg (asParam e) (asVar e) m with ev := (moveArg (asParam e) (asVar e) m).ev ++ dropV env.dr v } := by
  show (evalList env [e] m).bind _ = _
  rw [evalList_cons]
  cases eval env e m <;> rfl
@[lpstep] theorem eval_new : eval env (.fcall "PVec::new" []) m = .ok (.cont env.M.empty) m := by rfl

@[lpstep] theorem lookup_cons (x y : String) (v : V) (r : List (String × V)) :
    lookup x ((y, v) :: r) = if x = y then some v else lookup x r := by rfl

@[lpstep] theorem setLocal_cons (x y : String) (v w : V) (r : List (String × V)) :
    setLocal x v ((y, w) :: r) = if x = y then (y, v) :: r else (y, w) :: setLocal x v r := by rfl

@[lpstep] theorem moveArg_eq : moveArg none none m = m ∧
    (∀ x, moveArg none (some x) m = { m with locals := setLocal x .moved m.locals }) ∧
    (∀ k, moveArg (some k) none m = { m with movedPs := k :: m.movedPs }) := ⟨rfl, fun _ => rfl, fun _ => rfl⟩

@[lpstep] theorem dropV_eq (dr : Bool) : dropV dr .unit = {} ∧ dropV dr .moved = {} ∧
    (∀ e, dropV dr (.elem e) = dropWhole dr e) ∧ (∀ e, dropV dr (.opt (some e)) = dropWhole dr e) :=
  ⟨rfl, rfl, fun _ => rfl, fun _ => rfl⟩

section calls
variable (p : Option Nat) (x rv : Option String)

@[lpstep] theorem callSelf_eq :
    callSelf env "len" [] p x m = .ok (.nat (env.M.len m.self)) m ∧
    callSelf env "pop" [] p x m = afterSelf m (env.M.pop m.self) (fun o => .opt o.ret) ∧
    (∀ e, callSelf env "push" [.elem e] p x m = afterSelf (moveArg p x m) (env.M.push m.self e) (fun _ => .unit)) ∧
    (∀ k, callSelf env "truncate" [.nat k] p x m = afterSelf m (env.M.truncate m.self k) (fun _ => .unit)) ∧
    (∀ k, callSelf env "reserve" [.nat k] p x m = .ok .unit m) ∧
    callSelf env "as_mut_slice" [] p x m = .ok .view m := by
  unfold callSelf
  simp only [String.reduceEq, ↓reduceIte, implies_true, and_self]

theorem callOther_view_get {g : String} (hg : g = "get" ∨ g = "get_mut") (i : Nat) :
    callOther env rv .view g [.nat i] p x m = .ok (.oref (if i < env.M.len m.self then some i else none)) m := by
  simp only [callOther, if_pos hg]

@[lpstep] theorem callOther_eq :
    (∀ a b, callOther env rv .view "swap" [.nat a, .nat b] p x m = afterSelf m (env.M.swap m.self a b) (fun _ => .unit)) ∧
    (∀ i, callOther env rv (.oref (some i)) "unwrap" [] p x m = .ok (.eref i) m) ∧
    callOther env rv (.oref none) "unwrap" [] p x m = .panic m ∧
    (∀ c, callOther env rv (.src c) "len" [] p x m = .ok (.nat (env.M.len c)) m) ∧
    (∀ c, callOther env rv (.src c) "iter" [] p x m = .ok (.srcIter c) m) ∧
    (∀ c i, callOther env rv (.sref c i) "to_owned" [] p x m =
      .ok (.elem (Model.rowCols c i)) { m with ev := m.ev ++ { clones := (Model.rowCols c i).flat } }) ∧
    (∀ e, callOther env rv (.elem e) "as_ref" [] p x m = .ok (.vref e) m) ∧
    (∀ e, callOther env rv (.vref e) "to_owned" [] p x m = .ok (.elem e) { m with ev := m.ev ++ { clones := e.flat } }) := by
  unfold callOther
  simp only [String.reduceEq, or_self, ↓reduceIte, implies_true, and_self]

@[lpstep] theorem callOther_cont_push (y : String) (c e : Cols) :
    callOther env (some y) (.cont c) "push" [.elem e] p x m =
      (let o := env.M.push c e
       let mc := moveArg p x m
       let mc' := { mc with locals := setLocal y (.cont o.st) mc.locals, ev := mc.ev ++ o.ev }
       if o.panicked then .panic mc' else .ok .unit mc') := by rfl

end calls

@[lpstep] theorem exec_let (x : String) (e : Ex) :
    exec env (.let_ x e) m = (eval env e m).bind fun v m => .ok () { m with locals := (x, v) :: m.locals } := by rfl
@[lpstep] theorem exec_expr (e : Ex) :
    exec env (.expr e) m = (eval env e m).bind fun v m => .ok () { m with ev := m.ev ++ dropV env.dr v } := by rfl
def branch (t e : List St) (v : V) (m : Mach) : Res Unit :=
  match v with
  | .bool true => execList env t m
  | .bool false => execList env e m
  | _ => .stuck "condition"

@[lpstep] theorem exec_ite (c : Ex) (t e : List St) : exec env (.ite c t e) m = (eval env c m).bind (branch env t e) := by rfl
@[lpstep] theorem branch_eq (t e : List St) :
    branch env t e (.bool true) m = execList env t m ∧ branch env t e (.bool false) m = execList env e m := ⟨rfl, rfl⟩
@[lpstep] theorem exec_addAssign (x : String) (e : Ex) :
    exec env (.opAssign "+=" x e) m = (eval env e m).bind fun v m =>
      match lookup x m.locals, v with
      | some (.nat a), .nat b => .ok () { m with locals := setLocal x (.nat (a + b)) m.locals }
      | _, _ => .stuck "assignment operands" := by rfl
@[lpstep] theorem exec_block (ss : List St) :
    exec env (.block ss) m =
      (execList env ss m).bind fun _ m' => .ok () { m' with locals := m'.locals.drop (m'.locals.length - m.locals.length) } := by rfl

/-- one iteration of `for x in a..b { body }` (`mk = .nat`) or `for x in other.iter() { body }` (`mk = .sref other`) -/
def forNat (x : String) (mk : Nat → V) (body : List St) : Nat → Mach → Res Unit := fun i m =>
  (execList env body { m with locals := (x, mk i) :: m.locals }).bind fun _ m => .ok () { m with locals := m.locals.drop 1 }

/-- one iteration of `for x in iter { body }` over owned values: an `x` that was not moved is destroyed at the end -/
def forElem (x : String) (body : List St) : Cols → Mach → Res Unit := fun e m =>
  (execList env body { m with locals := (x, .elem e) :: m.locals }).bind fun _ m =>
    .ok () { m with locals := m.locals.drop 1, ev := m.ev ++ dropV env.dr ((lookup x m.locals).getD .moved) }

@[lpstep] theorem exec_forIn (x : String) (it : Ex) (body : List St) :
    exec env (.forIn x it body) m = (eval env it m).bind fun v m => match v with
      | .range a b => forRange (forNat env x .nat body) a (b - a) m
      | .elemsBoom es k => (forList (forElem env x body) (es.take k) m).bind fun _ m =>
          if k < es.length then .panic { m with ev := m.ev ++ dropCols env.dr (es.drop k) } else .ok () m
      | .elems es => forList (forElem env x body) es m
      | .srcIter c => forRange (forNat env x (.sref c) body) 0 (env.M.len c) m
      | _ => .stuck "for over" := by rfl

/-- the test of `while c { body }` -/
def whileCond (c : Ex) : Mach → Res Bool := fun m =>
  (eval env c m).bind fun v m => match v with | .bool b => .ok b m | _ => .stuck "condition"

@[lpstep] theorem exec_while (c : Ex) (body : List St) :
    exec env (.while_ c body) m = whileLoop (whileCond env c) (execList env body) env.fuel m := by rfl

/-- the test of `while let Some(x) = e { body }`, which binds `x` -/
def letCond (x : String) (e : Ex) : Mach → Res Bool := fun m =>
  (eval env e m).bind fun v m => match v with
    | .opt (some el) => .ok true { m with locals := (x, .elem el) :: m.locals }
    | .opt none => .ok false m
    | _ => .stuck "while let"

/-- … and its body: an `x` that was not moved is destroyed at the end -/
def letBody (x : String) (body : List St) : Mach → Res Unit := fun m =>
  (execList env body m).bind fun _ m =>
    .ok () { m with locals := m.locals.drop 1, ev := m.ev ++ dropV env.dr ((lookup x m.locals).getD .moved) }

@[lpstep] theorem exec_whileLet (x : String) (e : Ex) (body : List St) :
    exec env (.whileLetSome x e body) m = whileLoop (letCond env x e) (letBody env x body) env.fuel m := by rfl

def rest (ss : List St) (_ : Unit) (m : Mach) : Res Unit := execList env ss m

@[lpstep] theorem execList_nil : execList env [] m = .ok () m := by rfl
@[lpstep] theorem execList_cons (s : St) (ss : List St) : execList env (s :: ss) m = (exec env s m).bind (rest env ss) := by rfl
@[lpstep] theorem rest_apply (ss : List St) (u : Unit) : rest env ss u m = execList env ss m := by rfl

theorem Res.bind_assoc {α β γ : Type} (r : Res α) (f : α → Mach → Res β) (k : β → Mach → Res γ) :
    (r.bind f).bind k = r.bind fun a m => (f a m).bind k := by cases r <;> rfl

@[lpstep] theorem ev_append_nil (a : Ev) : a ++ ({} : Ev) = a := Ev.append_empty a
theorem ev_append_assoc (a b c : Ev) : a ++ b ++ c = a ++ (b ++ c) := Ev.append_assoc a b c
theorem ev_append_def (a b : Ev) : a ++ b = ⟨a.drops ++ b.drops, a.dropT ++ b.dropT, a.clones ++ b.clones⟩ := rfl

def outOf (r : Res Unit) : Option Model.Out :=
  match r with
  | .ok _ m => some { st := m.self, ev := m.ev, vis := m.vis, made := m.made }
  | .panic m => some { st := m.self, panicked := true, ev := m.ev, vis := m.vis, made := m.made }
  | .stuck _ => none

theorem outOf_bind_ok (r : Res Unit) : outOf (r.bind (rest env [])) = outOf r := by
  cases r <;> rfl

theorem leftovers_none (h : ∀ e, V.elem e ∉ env.ps) : leftovers env m = {} :=
  go _ _ h
where go : ∀ (vs : List V) (k : Nat), (∀ e, V.elem e ∉ vs) → leftovers.go env.dr m.movedPs vs k = {}
  | [], _, _ => rfl
  | v :: vs, k, h => by
    -- the equation of `leftovers.go` for a head that is no `.elem` asks for just that
    rw [leftovers.go, go vs (k + 1) fun e he => h e (List.mem_cons_of_mem _ he), ev_append_nil, ite_self]
    exact fun e he => h e (he ▸ List.mem_cons_self)

theorem run_unit (b : Body) (self : Cols) (ht : b.tail = none) (hl : ∀ m, leftovers env m = {}) :
    run env b self = outOf (execList env b.stmts { self := self }) := by
  unfold run
  cases execList env b.stmts { self := self } with
  | ok _ m => simp [ht, outOf, hl]
  | panic m => simp [outOf, hl]
  | stuck s => simp [outOf]

theorem run_stmts (b : Body) (self : Cols) (ht : b.tail = none) (hp : ∀ e, V.elem e ∉ env.ps) :
    run env b self = outOf (execList env b.stmts { self := self }) :=
  run_unit env b self ht fun m => leftovers_none env m hp

theorem run_ret_none {env : Env} {b : Body} {self : Cols} {o : Model.Out} (ht : b.tail = none) (h : run env b self = some o) :
    o.ret = none ∧ o.isNone = false := by
  unfold run at h
  rw [ht] at h
  -- without a tail expression every outcome `run` builds leaves `ret` and `isNone` at their defaults
  generalize execList env b.stmts { self := self } = r at h
  cases r with
  | stuck _ => cases h
  | panic m => cases h; exact ⟨rfl, rfl⟩
  | ok _ m => cases h; exact ⟨rfl, rfl⟩

end Soa.Lp
