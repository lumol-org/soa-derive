import Soa.Lemmas.Delegations
/-! thin generated functions read from their extracted bodies (scope C12) -/
namespace Soa.Lp
open Soa.Extracted

/-- `new()` is `Default::default()` -/
theorem new_is_default : lp_PVec_new.stmts.length = 0 ∧
    (match lp_PVec_new.tail with | some (.fcall "Default::default" []) => true | _ => false) = true := by decide +kernel

end Soa.Lp
