import Soa.Lemmas.Delegations
/-! thin generated functions read from their extracted bodies (scope C01) -/
namespace Soa.Lp
open Soa.Extracted

/-- `ToSoAVec::to_vec` of both views is the inherent `to_vec` -/
theorem trait_to_vec :
    isCallOn lp_PSlice_a_soa_derive_ToSoAVec_P_to_vec .self_ "to_vec" = true ∧
    isCallOn lp_PSliceMut_a_soa_derive_ToSoAVec_P_to_vec .self_ "to_vec" = true := by decide +kernel

end Soa.Lp
