import Soa.Lemmas.Delegations
/-! thin generated functions read from their extracted bodies (scope C15) -/
namespace Soa.Lp
open Soa.Extracted

/-- the four `From<Ref>` conversions are `to_owned()` of the reference -/
theorem from_conversions :
    isCallOn lp_P_From_PRef_a_from (.param 0) "to_owned" = true ∧ isCallOn lp_P_From_aPRef_a_from (.param 0) "to_owned" = true ∧
    isCallOn lp_P_From_PRefMut_a_from (.param 0) "to_owned" = true ∧
    isCallOn lp_P_From_aPRefMut_a_from (.param 0) "to_owned" = true := by decide +kernel

end Soa.Lp
