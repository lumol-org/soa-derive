import Soa.Lemmas.Delegations
/-! thin generated functions read from their extracted bodies (scope C06) -/
namespace Soa.Lp
open Soa.Extracted

/-- `size_hint` and `len` of both iterators are those of the wrapped zip -/
theorem iter_sizes :
    isCallOn lp_PIter_a_Iterator_size_hint (.proj .self_ 0) "size_hint" = true ∧
    isCallOn lp_PIter_a_ExactSizeIterator_len (.proj .self_ 0) "len" = true ∧
    isCallOn lp_PIterMut_a_Iterator_size_hint (.proj .self_ 0) "size_hint" = true ∧
    isCallOn lp_PIterMut_a_ExactSizeIterator_len (.proj .self_ 0) "len" = true := by decide +kernel

end Soa.Lp
