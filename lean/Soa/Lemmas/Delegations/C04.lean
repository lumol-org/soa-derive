import Soa.Lemmas.Delegations
/-! thin generated functions read from their extracted bodies (scope C04) -/
namespace Soa.Lp
open Soa.Extracted

/-- the six accessors of the vector are the index value's `SoAIndex` / `SoAIndexMut` methods on the vector -/
theorem vec_accessors :
    isForward lp_PVec_get "get" = true ∧ isForward lp_PVec_get_unchecked "get_unchecked" = true ∧
    isForward lp_PVec_index "index" = true ∧ isForward lp_PVec_get_mut "get_mut" = true ∧
    isForward lp_PVec_get_unchecked_mut "get_unchecked_mut" = true ∧ isForward lp_PVec_index_mut "index_mut" = true := by decide +kernel

/-- those of the shared view, on a reborrow of the view -/
theorem slice_accessors :
    isForwardVia lp_PSlice_a_get "reborrow" "get" = true ∧
    isForwardVia lp_PSlice_a_get_unchecked "reborrow" "get_unchecked" = true ∧
    isForwardVia lp_PSlice_a_index "reborrow" "index" = true := by decide +kernel

/-- those of the mutable view: the shared ones on `as_slice()`, the mutable ones on a reborrow -/
theorem sliceMut_accessors :
    isForwardVia lp_PSliceMut_a_get "as_slice" "get" = true ∧
    isForwardVia lp_PSliceMut_a_get_unchecked "as_slice" "get_unchecked" = true ∧
    isForwardVia lp_PSliceMut_a_index "as_slice" "index" = true ∧
    isForwardVia lp_PSliceMut_a_get_mut "reborrow" "get_mut" = true ∧
    isForwardVia lp_PSliceMut_a_get_unchecked_mut "reborrow" "get_unchecked_mut" = true ∧
    isForwardVia lp_PSliceMut_a_index_mut "reborrow" "index_mut" = true := by decide +kernel

end Soa.Lp
