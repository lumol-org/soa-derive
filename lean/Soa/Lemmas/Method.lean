import Soa.Model.Vec
import Soa.Spec.Vec
import Soa.Lemmas.PerField
/-!
# The two templates behind the per-field methods

Past its guard, every generated method that is one std call per field is one of two functions of
`c.apply2 op a`: it hands the result column back (`callRet`: `remove`, `swap_remove`, `split_off`,
`pop`, `replace`) or it does not (`callUnit`: `push`, `insert`, `append`).  The `Model.*` and
`Spec.*` definitions are instances by `rfl` (`insert`, `replace`, whose guard comes first: by
`Model.insert_eq`, `Model.replace_eq`); the properties are proved once per template.
-/
namespace Soa
variable {c : Cols} {n k : Nat}

namespace Model

/-- per-field call that hands back the result column; if a field panics, `ev` of what was already
    taken out is destroyed -/
def callRet (op : PolyOp) (c a : Cols) (ev : Cols → Ev) : Out :=
  let r := c.apply2 op a
  if r.panicked then { st := r.st, panicked := true, ev := ev r.out } else { st := r.st, ret := some r.out }

/-- per-field call that returns nothing; `ev` may depend on the panic flag, `other` is what becomes
    of the argument container -/
def callUnit (op : PolyOp) (c a : Cols) (ev : Bool → Ev) (other : Cols → Option Cols) : Out :=
  let r := c.apply2 op a
  { st := r.st, panicked := r.panicked, ev := ev r.panicked, other := other r.out }

end Model

namespace Spec

def callRet (op : PolyOp) (rs as : List Elem) (ev : Ev) : Out :=
  match std op rs as with
  | some r => { st := r.1, ret := some r.2 }
  | none => { st := rs, panicked := true, ev := ev }

def callUnit (op : PolyOp) (rs as : List Elem) (ev : Ev) : Out :=
  match std op rs as with
  | some r => { st := r.1 }
  | none => { st := rs, panicked := true, ev := ev }

end Spec

/-! ## a length guard that repeats std's own check is redundant under lockstep: where it fires, the first field's
std call would have panicked with nothing changed -/

variable {e : Cols}

theorem Model.insert_eq (dr : Bool) (i : Nat) (hc : c.lock n) (he : e.lock k) (hs : c.same e) :
    Model.insert dr c i e =
      Model.callUnit (insertOp i) c e (fun p => if p then dropWhole dr e else {}) (fun _ => none) := by
  unfold Model.insert Model.callUnit
  rw [firstLen_lock c n hc]
  split
  · next h =>
    obtain ⟨hp, hst, _⟩ := apply2_fail (insertOp i) n k (by simpa [insertOp] using h) c e hc he hs
    simp only [hp, hst, ↓reduceIte]
  · rfl

theorem Model.replace_eq (dr : Bool) (i : Nat) (hc : c.lock n) (he : e.lock k) (hs : c.same e) :
    Model.replace dr c i e = Model.callRet (replaceOp i) c e (fun _ => dropWhole dr e) := by
  unfold Model.replace Model.callRet
  rw [firstLen_lock c n hc]
  split
  · next h =>
    obtain ⟨hp, hst, _⟩ := apply2_fail (replaceOp i) n k (by simpa [replaceOp] using h) c e hc he hs
    simp only [hp, hst, ↓reduceIte]
  · rfl

theorem Model.replace_ev_of_ok (dr : Bool) (i : Nat) (h : (Model.replace dr c i e).panicked = false) :
    (Model.replace dr c i e).ev = {} := by
  unfold Model.replace at h ⊢
  -- the guard's branch and the branch of a panicking field contradict `h`; the remaining one has no events
  split at h
  · cases h
  · dsimp only at h
    split at h
    · cases h
    · next hg hp =>
      rw [if_neg hg]
      dsimp only
      rw [if_neg hp]

theorem Spec.replace_ok (dr : Bool) {rs : List Elem} {i : Nat} (e : List Elem) (hi : i < rs.length) :
    Spec.replace dr rs i e =
      { st := rs.take i ++ e ++ rs.drop (i + 1), ret := some ((rs.drop i).take 1) } := by
  simp [Spec.replace, Spec.std, replaceOp, hi]

end Soa
