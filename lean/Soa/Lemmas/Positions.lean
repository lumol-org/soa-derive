import Soa.Model.Views
import Soa.Lemmas.Loops
/-!
# Reading columns at positions = reading rows

`View.rowIds c i` (what the executable model prints for the element at position `i`: one id
per leaf) is the id list of row `i`; applying one list function to every leaf is a
per-field application (`apply2_fnOp`), so the transposition theorem applies to it (`mapLeaves_rows`: windows, sorting gathers).
-/
namespace Soa
open View

/-- a total natural function on lists, as a `PolyOp` without argument -/
def fnOp (f : {α : Type} → List α → List α)
    (hnat : ∀ {α β : Type} (g : α → β) (xs : List α), f (xs.map g) = (f xs).map g) : PolyOp :=
  .ofTotal (fun _ k => k == 0) (fun xs _ => (f xs, [])) (by intros; simp [hnat])

theorem apply2_fnOp (f : {α : Type} → List α → List α) (hnat) :
    ∀ c : Cols, c.apply2 (fnOp f hnat) (c.const []) = ⟨mapLeaves (f (α := Nat)) c, c.const [], false⟩
  | .leaf _ => rfl
  | .nest fs => by rw [Cols.const, Cols.apply2, go fs]; rfl
where go : ∀ fs : List Cols, Cols.apply2.apply2L (fnOp f hnat) fs (Cols.const.constL [] fs) =
    (mapLeaves.mapLeavesL (f (α := Nat)) fs, Cols.const.constL [] fs, false)
  | [] => rfl
  | c :: cs => by rw [Cols.const.constL, Cols.apply2.apply2L, apply2_fnOp f hnat c, go cs]; rfl

theorem mapLeaves_rows (f : {α : Type} → List α → List α)
    (hnat : ∀ {α β : Type} (g : α → β) (xs : List α), f (xs.map g) = (f xs).map g) (n : Nat) (c : Cols) (hc : c.lock n) :
    (mapLeaves (f (α := Nat)) c).rows = f c.rows ∧ (mapLeaves (f (α := Nat)) c).lock (f c.rows).length := by
  obtain ⟨_, hst, _, hl, _⟩ := apply2_total (op := fnOp f hnat) rfl c _ n 0 hc (lock_noArgs c n hc) (same_const [] c) rfl
  rw [apply2_fnOp] at hst hl
  exact ⟨hst, hl⟩

theorem leaves_mapLeaves (f : List Nat → List Nat) : ∀ c : Cols, (mapLeaves f c).leaves = c.leaves.map f
  | .leaf _ => rfl
  | .nest fs => go fs
where go : ∀ fs : List Cols, Cols.leaves.leavesL (mapLeaves.mapLeavesL f fs) = (Cols.leaves.leavesL fs).map f
  | [] => rfl
  | c :: cs => by
    rw [mapLeaves.mapLeavesL, Cols.leaves.leavesL, leaves_mapLeaves f c, go cs, Cols.leaves.leavesL, List.map_append]

theorem winCols_eq (c : Cols) (w : Win) :
    winCols c w = (mapLeaves (fun l => (l.drop w.s).take w.l) c).leaves := by
  rw [leaves_mapLeaves]; rfl

theorem map_getD_range' {α : Type} (R : List α) (d : α) (s l : Nat) (h : s + l ≤ R.length) :
    (List.range' s l).map (R.getD · d) = (R.drop s).take l := by
  induction l generalizing s with
  | zero => rfl
  | succ l ih =>
    have hs : s < R.length := by omega
    rw [List.range'_succ, List.map_cons, ih (s + 1) (by omega), List.drop_eq_getElem_cons hs, List.take_succ_cons,
      List.getD_eq_getElem?_getD, List.getElem?_eq_getElem hs, Option.getD_some]

theorem map_getD_range {α : Type} (l : List α) (d : α) : (List.range l.length).map (l.getD · d) = l := by
  rw [List.range_eq_range', map_getD_range' l d 0 l.length (by omega), List.drop_zero, List.take_length]

theorem take_one_drop {α : Type} (xs : List α) (i : Nat) (h : i < xs.length) : (xs.drop i).take 1 = [xs[i]] := by
  rw [List.drop_eq_getElem_cons h]; rfl

theorem rowIds_eq (c : Cols) (n i : Nat) (hc : c.lock n) (hi : i < n) :
    ∃ r, c.rows[i]? = some r ∧ rowIds c i = r.ids := by
  -- the one-position window is a one-row tree whose single row is row `i`
  have hi' : i < c.rows.length := rows_len n c hc ▸ hi
  obtain ⟨hw, hl⟩ := mapLeaves_rows (fun xs => (xs.drop i).take 1) (by intros; simp [List.map_take, List.map_drop]) n c hc
  rw [take_one_drop c.rows i hi'] at hw hl
  obtain ⟨r, h1, h2⟩ := one_row _ hl
  refine ⟨r, ?_, ?_⟩
  · rw [List.getElem?_eq_getElem hi', ← List.head_eq_of_cons_eq (hw.symm.trans h1)]
  · -- in every leaf, the value at `i` is all of that window
    rw [← h2, Cols.flat, leaves_mapLeaves, rowIds, List.map_eq_flatMap, List.flatMap_def]
    refine congrArg _ (List.map_congr_left fun l hl => ?_)
    have hil : i < l.length := leaves_lock n c hc l hl ▸ hi
    rw [take_one_drop l i hil, List.getD_eq_getElem?_getD, List.getElem?_eq_getElem hil]
    rfl

end Soa
