import Soa.Model.Basic
import Soa.Own
/-!
# Transposition preserves the multiset of field values

The ids of a lockstep container read row by row are a permutation of the ids read column
by column (`Cols.ids`, `Cols.flat`): nothing is lost or duplicated by looking at the
container element-wise instead of field-wise.
-/
namespace Soa

theorem zipCons_ids : ∀ (xs : List Elem) (ys : List (List Elem)), xs.length = ys.length →
    (((List.zipWith (· :: ·) xs ys).map Elem.ids.idsL).flatten).Perm
      ((xs.map Elem.ids).flatten ++ (ys.map Elem.ids.idsL).flatten)
  | [], [], _ => .refl _
  | x :: xs, y :: ys, h =>
    ((zipCons_ids xs ys (Nat.succ.inj h)).append_left (x.ids ++ Elem.ids.idsL y)).trans (perm_interleave _ _ _ _)

theorem rows_ids_perm (n : Nat) : ∀ c : Cols, c.lock n → ((c.rows.map Elem.ids).flatten).Perm c.ids
  | .leaf xs, _ => by rw [Cols.rows, List.map_map]; exact .of_eq (List.flatMap_singleton' xs)
  | .nest fs, h => by rw [Cols.rows, List.map_map]; exact go fs (lock_nest.mp h).2
where go : ∀ fs : List Cols, (∀ c ∈ fs, c.lock n) →
    (((Cols.rows.rowsL fs).map Elem.ids.idsL).flatten).Perm (Cols.ids.idsL fs)
  | [], _ => .refl _
  | [c], h => by
    simpa [Cols.rows.rowsL, Cols.ids.idsL, Elem.ids.idsL, Function.comp_def] using rows_ids_perm n c (h c (.head _))
  | c :: c' :: cs, h =>
    have hcs : ∀ x ∈ c' :: cs, x.lock n := fun x hx => h x (.tail _ hx)
    (zipCons_ids c.rows _ ((rows_len n c (h c (.head _))).trans (rows_len.rowsL_len n (c' :: cs) nofun hcs).symm)).trans
      ((rows_ids_perm n c (h c (.head _))).append (go (c' :: cs) hcs))
end Soa
