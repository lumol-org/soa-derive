import Soa.Extracted.Loops
import Soa.Lemmas.Loops
import Soa.Lemmas.LoopStep
/-!
# The loop-style generated functions, as extracted, are the hand-written model

For every lockstep container of every shape and every argument: running the statement tree
extracted from /repo on this run (`Soa/Extracted/Loops.lean`) with the interpreter of
`Soa/Model/Loop.lean` — over the model's `pop` / `push` / `truncate` / `swap` — gives exactly
the outcome of the hand-written model function the property theorems are about.  The proofs
are symbolic executions of the extracted tree with a loop invariant per loop; they are
re-checked against the regenerated tree on every run, so any change of a loop (another
bound, another order of calls, a second call of the callback, a dropped `truncate`) breaks
them unless it provably means the same.
-/
namespace Soa.Lp
open Soa.Model Soa.Extracted

/-- `slice.swap(a, b)` on the view of the whole vector, in the hand-written model -/
def modelSwap (c : Cols) (a b : Nat) : Out :=
  let r := c.apply2 (swapOp a b) (Model.noArgs c); { st := r.st, panicked := r.panicked }

/-- the methods a loop-style function calls: `len` / `pop` / `push` of the hand-written model (the extracted ones are
    equal to them on every container, `Sk.pop_tie` / `Sk.push_tie`), and a `truncate` and a `swap` that are only required
    to agree with the model on lockstep containers (`TrOk`, `SwOk`) — so that the theorems below apply both to the
    model's own methods and to the extracted ones the driver runs -/
def methodsWith (empty : Cols) (tr : Cols → Nat → Out) (sw : Cols → Nat → Nat → Out) : Methods :=
  { len := Cols.firstLen, pop := Model.pop, push := Model.push, truncate := tr, swap := sw, empty := empty }

def TrOk (dr : Bool) (tr : Cols → Nat → Out) : Prop := ∀ (c : Cols) (n k : Nat), c.lock n → tr c k = Model.truncate dr c k
def SwOk (sw : Cols → Nat → Nat → Out) : Prop :=
  ∀ (c : Cols) (n a b : Nat), c.lock n → a < n → b < n → sw c a b = modelSwap c a b

def modelMethods (dr : Bool) (empty : Cols) : Methods := methodsWith empty (Model.truncate dr) modelSwap

theorem trOk_model (dr : Bool) : TrOk dr (Model.truncate dr) := fun _ _ _ _ => rfl
theorem swOk_model : SwOk modelSwap := fun _ _ _ _ _ _ _ => rfl

/-- `while self.len() > k { drop(self.pop()) }` and `while let Some(value) = self.pop() { drop(value) }` (`k = 0`) are the
    same loop, `Model.truncateLoop`: while more than `k` elements are left, test and body together pop one element and
    destroy it (`hgo`); else the test fails and leaves the machine as it is (`hstop`). -/
theorem popUntil (dr : Bool) (k : Nat) (cond : Mach → Res Bool) (body : Mach → Res Unit)
    (hstop : ∀ (m : Mach) (n : Nat), m.self.lock n → n ≤ k → cond m = .ok false m)
    (hgo : ∀ (m : Mach) (n : Nat) (st e : Cols), m.self.lock n → k < n → Model.pop m.self = { st := st, ret := some e } →
      ∃ m1, cond m = .ok true m1 ∧ body m1 = .ok () { m with self := st, ev := m.ev ++ dropWhole dr e })
    (f g n : Nat) (m : Mach) (hc : m.self.lock n) (hv : m.vis = []) (hm : m.made = []) (hf : n - k < f) (hg : n - k < g) :
    outOf (whileLoop cond body f m) = some (Model.truncateLoop dr k g m.self m.ev) := by
  induction f generalizing g n m with
  | zero => exact absurd hf (Nat.not_lt_zero _)
  | succ f ih =>
    cases g with
    | zero => exact absurd hg (Nat.not_lt_zero _)
    | succ g =>
      rw [whileLoop, Model.truncateLoop, firstLen_lock _ n hc]
      by_cases hk : n > k
      · obtain ⟨j, rfl⟩ := Nat.exists_eq_add_one_of_ne_zero (Nat.ne_zero_of_lt hk)
        obtain ⟨st, e, hpop, hl, _⟩ := pop_ok m.self j hc
        obtain ⟨m1, h1, h2⟩ := hgo m _ st e hc hk hpop
        rw [h1, Res.bind_ok, if_pos rfl, h2, Res.bind_ok, if_pos hk, hpop]
        exact ih g j _ hl hv hm (by omega) (by omega)
      · rw [hstop m n hc (Nat.le_of_not_gt hk), Res.bind_ok, if_neg Bool.false_ne_true, if_neg hk, outOf, hv, hm]

theorem truncateLoop_shape (dr : Bool) (k g : Nat) (c : Cols) (ev : Ev) :
    Model.truncateLoop dr k g c ev =
      { st := (Model.truncateLoop dr k g c ev).st, panicked := (Model.truncateLoop dr k g c ev).panicked,
        ev := (Model.truncateLoop dr k g c ev).ev } := by
  fun_induction Model.truncateLoop dr k g c ev with
  | case3 => assumption
  | _ => rfl

theorem truncate_shape (dr : Bool) (c : Cols) (k : Nat) :
    Model.truncate dr c k = { st := (Model.truncate dr c k).st, panicked := (Model.truncate dr c k).panicked,
                              ev := (Model.truncate dr c k).ev } :=
  truncateLoop_shape dr k _ c {}

/-- **truncate** as extracted = `Model.truncate` -/
theorem truncate_tie (dr : Bool) (k : Nat) (empty c : Cols) (tr : Cols → Nat → Out) (sw : Cols → Nat → Nat → Out) (n fuel : Nat) (hc : c.lock n) (hf : n - k < fuel) :
    run { dr := dr, ps := [.nat k], M := methodsWith empty tr sw, fuel := fuel } lp_PVec_truncate c = some (Model.truncate dr c k) := by
  have hcond (m : Mach) : whileCond { dr := dr, ps := [.nat k], M := methodsWith empty tr sw, fuel := fuel }
      (.bin ">" (.mcall .self_ "len" []) (.param 0)) m = .ok (decide (m.self.firstLen > k)) m := by
    simp only [whileCond, lpstep, methodsWith]
  rw [run_stmts _ _ _ rfl (by simp)]
  simp only [lp_PVec_truncate, lpstep, outOf_bind_ok]
  refine popUntil dr k _ _ ?_ ?_ fuel _ n { self := c } hc rfl rfl hf (by rw [firstLen_lock c n hc]; omega)
  · intro m n hc hk
    rw [hcond, firstLen_lock _ n hc, decide_eq_false (Nat.not_lt.mpr hk)]
  · intro m n st e hc hk hpop
    refine ⟨m, ?_, ?_⟩
    · rw [hcond, firstLen_lock _ n hc, decide_eq_true hk]
    · simp only [lpstep, methodsWith, hpop, Bool.false_eq_true, ↓reduceIte]

/-- **clear** as extracted (`self.truncate(0)`) = `Model.clear` -/
theorem clear_tie (dr : Bool) (empty c : Cols) (tr : Cols → Nat → Out) (sw : Cols → Nat → Nat → Out) (htr : TrOk dr tr)
    (n fuel : Nat) (hc : c.lock n) :
    run { dr := dr, ps := [], M := methodsWith empty tr sw, fuel := fuel } lp_PVec_clear c = some (Model.clear dr c) := by
  obtain ⟨st, h, -⟩ := truncate_eq dr 0 n c hc
  rw [run_stmts _ _ _ rfl (by simp)]
  simp only [lp_PVec_clear, lpstep, methodsWith, htr c n 0 hc, Model.clear, h, Bool.false_eq_true, ↓reduceIte, outOf]

/-- **`Drop for …Vec`** as extracted = `Model.dropVec` -/
theorem drop_tie (dr : Bool) (empty c : Cols) (tr : Cols → Nat → Out) (sw : Cols → Nat → Nat → Out) (n fuel : Nat) (hc : c.lock n) (hf : n < fuel) :
    run { dr := dr, ps := [], M := methodsWith empty tr sw, fuel := fuel } lp_PVec_Drop_drop c = some (Model.dropVec dr c) := by
  rw [run_stmts _ _ _ rfl (by simp)]
  simp only [lp_PVec_Drop_drop, lpstep, outOf_bind_ok]
  refine popUntil dr 0 _ _ ?_ ?_ fuel _ n { self := c } hc rfl rfl hf (by rw [firstLen_lock c n hc]; omega)
  · intro m n hc hn
    obtain rfl : n = 0 := by omega
    simp only [letCond, lpstep, methodsWith, pop_zero _ hc, Bool.false_eq_true, ↓reduceIte]
  · intro m n st e hc hk hpop
    refine ⟨{ m with self := st, locals := ("value", .elem e) :: m.locals }, ?_, ?_⟩
    · simp only [letCond, lpstep, methodsWith, hpop, Bool.false_eq_true, ↓reduceIte]
    · simp only [letBody, lpstep, ↓reduceIte]

/-! ## `Extend<T>`: `for item in iter { self.push(item) }` -/

@[lpstep] theorem push_ev (c e : Cols) : (Model.push c e).ev = {} := rfl

theorem extend_panicked_cons {c e : Cols} {es : List Cols} (h : (Model.extend c (e :: es)).panicked = false) :
    (Model.push c e).panicked = false ∧ (Model.extend (Model.push c e).st es).panicked = false := by
  simp only [Model.extend] at h
  by_cases hp : (Model.push c e).panicked = true
  · simp [hp] at h
  · simp only [hp, Bool.false_eq_true, ↓reduceIte] at h
    exact ⟨by simpa using hp, h⟩

theorem extend_append (c : Cols) (xs ys : List Cols) (h : (Model.extend c xs).panicked = false) :
    Model.extend c (xs ++ ys) = Model.extend (Model.extend c xs).st ys := by
  induction xs generalizing c with
  | nil => rfl
  | cons x xs ih =>
    obtain ⟨h1, h2⟩ := extend_panicked_cons h
    simp only [List.cons_append, Model.extend, h1, Bool.false_eq_true, ↓reduceIte]
    exact ih _ h2

theorem extend_loop (env : Env) (hpush : env.M.push = Model.push) (es : List Cols) (m : Mach) :
    outOf (forList (forElem env "item" [(.expr (.mcall .self_ "push" [(.var "item")]))]) es m) =
      some { st := (Model.extend m.self es).st, panicked := (Model.extend m.self es).panicked, ev := m.ev, vis := m.vis,
             made := m.made } := by
  induction es generalizing m with
  | nil => rfl
  | cons e es ih =>
    rw [forList, forElem, Model.extend]
    simp only [lpstep, ↓reduceIte, hpush]
    by_cases hp : (Model.push m.self e).panicked = true
    · simp only [hp, ↓reduceIte, Res.bind_panic, outOf]
    · simp only [hp, Bool.false_eq_true, ↓reduceIte, lpstep]
      exact ih _

/-- **`Extend<T>::extend`** as extracted = `Model.extend` -/
theorem extend_tie (dr : Bool) (empty c : Cols) (tr : Cols → Nat → Out) (sw : Cols → Nat → Nat → Out) (es : List Cols) (fuel : Nat) :
    run { dr := dr, ps := [.elems es], M := methodsWith empty tr sw, fuel := fuel } lp_PVec_Extend_P_extend c =
      some (Model.extend c es) := by
  rw [run_stmts _ _ _ rfl (by simp), extend_shape es c]
  simp only [lp_PVec_Extend_P_extend, lpstep, outOf_bind_ok]
  exact extend_loop _ rfl es _

/-! ## `retain` / `retain_mut`: the swap loop, then one `truncate` (the syntax; the proof is in `LoopTieW.lean`) -/

/-- the loop body `if !f(slice.GET(i).unwrap()) { del += 1 } else if del > 0 { slice.swap(i - del, i) }` -/
def retainBody (g : String) : List St :=
  [(.ite (.not (.app 0 [(.mcall (.mcall (.var "slice") g [(.var "i")]) "unwrap" [])])) [(.opAssign "+=" "del" (.num 1))]
      [(.ite (.bin ">" (.var "del") (.num 0))
        [(.expr (.mcall (.var "slice") "swap" [(.bin "-" (.var "i") (.var "del")), (.var "i")]))] [])])]

def retainStmts (g : String) : List St :=
  [(.let_ "len" (.mcall .self_ "len" [])),
   (.let_ "del" (.num 0)),
   (.block [(.let_ "slice" (.mcall .self_ "as_mut_slice" [])), (.forIn "i" (.range (.num 0) (.var "len")) (retainBody g))]),
   (.ite (.bin ">" (.var "del") (.num 0)) [(.expr (.mcall .self_ "truncate" [(.bin "-" (.var "len") (.var "del"))]))] [])]

theorem retain_stmts : lp_PVec_retain.stmts = retainStmts "get" ∧ lp_PVec_retain_mut.stmts = retainStmts "get_mut" ∧
    lp_PVec_retain.tail = none ∧ lp_PVec_retain_mut.tail = none := ⟨rfl, rfl, rfl, rfl⟩

/-- the locals inside the loop -/
def baseLocals (n del : Nat) : List (String × V) := [("slice", .view), ("del", .nat del), ("len", .nat n)]

/-! ## `resize`: reserve, `new_len - len - 1` clones pushed, then the value itself; or `truncate` -/

theorem resize_loop (env : Env) (hpush : env.M.push = Model.push) {e : Cols} (hps : env.ps[1]? = some (.elem e)) (he : e.lock 1)
    (j i n : Nat) (m : Mach) (hc : m.self.lock n) (hs : m.self.same e) :
    forRange (forNat env "_" .nat [(.expr (.mcall .self_ "push" [(.mcall (.mcall (.param 1) "as_ref" []) "to_owned" [])]))])
        i j m =
      .ok () { m with self := (Model.extend m.self (List.replicate j e)).st,
                      ev := m.ev ++ { clones := (List.replicate j e.flat).flatten } } := by
  induction j generalizing i n m with
  | zero =>
    simp only [forRange, Model.extend, List.replicate_zero, List.flatten_nil]
    exact congrArg _ (by rw [show ({ clones := [] } : Ev) = {} from rfl, ev_append_nil])
  | succ j ih =>
    obtain ⟨hp, -, hl, hsm⟩ := push_ok hc he hs
    rw [forRange, forNat]
    simp only [lpstep, hps, hpush, hp, Bool.false_eq_true, ↓reduceIte]
    rw [ih (i + 1) (n + 1) _ hl (same_trans _ _ _ (same_symm _ _ hsm) hs)]
    simp only [List.replicate_succ, Model.extend, hp, Bool.false_eq_true, ↓reduceIte, ev_append_def, List.flatten_cons,
      List.append_assoc, List.append_nil]

/-- **`resize`** as extracted = `Model.resize` -/
theorem resize_tie (dr : Bool) (empty c e : Cols) (tr : Cols → Nat → Out) (sw : Cols → Nat → Nat → Out) (htrOk : TrOk dr tr)
    (k n fuel : Nat) (hc : c.lock n) (he : e.lock 1) (hs : c.same e) :
    run { dr := dr, ps := [.nat k, .elem e], M := methodsWith empty tr sw, fuel := fuel } lp_PVec_resize c =
      some (Model.resize dr c k e) := by
  have hfl := firstLen_lock c n hc
  unfold run
  simp only [lp_PVec_resize, lpstep, ↓reduceIte, methodsWith, hfl, Model.resize]
  by_cases hk : k > n
  · -- grow: `k - n - 1` clones, then the value itself (moved, so nothing is left to destroy)
    obtain ⟨hp0, -, ⟨_, hl0⟩, hs0⟩ := extend_ok (List.replicate (k - (n + 1)) e) c n hc fun x hx =>
      List.eq_of_mem_replicate hx ▸ ⟨he, hs⟩
    obtain ⟨hp1, -⟩ := push_ok hl0 he (same_trans _ _ _ (same_symm _ _ hs0) hs)
    simp only [hk, decide_true, lpstep, ↓reduceIte, binV_sub (show n ≤ k by omega)]
    rw [resize_loop _ rfl rfl he _ _ n _ hc hs]
    simp only [lpstep, hp1, Bool.false_eq_true, ↓reduceIte, leftovers, leftovers.go, List.contains_cons,
      List.contains_nil, BEq.rfl, Bool.or_false, Nat.reduceBEq, Nat.zero_add,
      show k - n = k - (n + 1) + 1 by omega, List.replicate_succ', extend_append _ _ _ hp0, Model.extend, Nat.add_sub_cancel]
  · -- else `self.truncate(k)`, and the value is destroyed when the function returns
    obtain ⟨st, h, -⟩ := truncate_eq dr k n c hc
    simp only [hk, decide_false, lpstep, ↓reduceIte, htrOk c n k hc, h, Bool.false_eq_true, leftovers, leftovers.go,
      List.contains_nil]

/-! ## `extend_from_slice`: reserve, then `push(item.to_owned())` for every element of the source -/

/-- everything but the clone events (which the interpreter records element by element, the model field by field) -/
def core (o : Out) : Cols × Bool × List Nat × List Nat × List (List Nat) × List Nat :=
  (o.st, o.panicked, o.ev.drops, o.ev.dropT, o.vis, o.made)

def efsBody : List St := [(.expr (.mcall .self_ "push" [(.mcall (.var "item") "to_owned" [])]))]

def efsStmts : List St :=
  [(.expr (.mcall .self_ "reserve" [(.mcall (.param 0) "len" [])])),
   (.forIn "item" (.mcall (.param 0) "iter" []) efsBody)]

theorem efs_stmts : lp_PVec_soa_derive_SoAAppendVec_P_extend_from_slice.stmts = efsStmts ∧
    lp_PVec_soa_derive_SoAAppendVec_P_extend_from_slice.tail = none := ⟨rfl, rfl⟩

theorem efs_loop (env : Env) (hpush : env.M.push = Model.push) (d : Cols) (j i : Nat) (m : Mach) :
    (outOf (forRange (forNat env "item" (.sref d) efsBody) i j m)).map core =
      some ((Model.extend m.self ((List.range' i j).map (Model.rowCols d))).st,
            (Model.extend m.self ((List.range' i j).map (Model.rowCols d))).panicked, m.ev.drops, m.ev.dropT, m.vis, m.made) := by
  induction j generalizing i m with
  | zero => rfl
  | succ j ih =>
    rw [forRange, forNat, efsBody, List.range'_succ, List.map_cons, Model.extend]
    simp only [lpstep, ↓reduceIte, hpush]
    by_cases hp : (Model.push m.self (Model.rowCols d i)).panicked = true
    · simp only [hp, ↓reduceIte, Res.bind_panic, outOf, Option.map_some, core, ev_append_def, List.append_nil]
    · simp only [hp, Bool.false_eq_true, ↓reduceIte, lpstep]
      exact (ih (i + 1) _).trans (by simp only [ev_append_def, List.append_nil])

/-- **`extend_from_slice`** as extracted: contents and panic flag of `Model.extendFromSlice`, nothing destroyed -/
theorem extend_from_slice_tie (dr : Bool) (empty c d : Cols) (tr : Cols → Nat → Out) (sw : Cols → Nat → Nat → Out) (fuel : Nat) :
    (run { dr := dr, ps := [.src d], M := methodsWith empty tr sw, fuel := fuel }
        lp_PVec_soa_derive_SoAAppendVec_P_extend_from_slice c).map core =
      some ((Model.extendFromSlice c d).st, (Model.extendFromSlice c d).panicked, [], [], [], []) := by
  rw [run_stmts _ _ _ efs_stmts.2 (by simp), efs_stmts.1]
  simp only [efsStmts, lpstep, outOf_bind_ok]
  exact (efs_loop _ rfl d _ 0 _).trans (by simp [Model.extendFromSlice, List.range_eq_range', methodsWith])

/-! ## `FromIterator`: `let mut result = …Vec::new(); for element in iter { result.push(element); } result` -/

theorem fi_loop (env : Env) (hpush : env.M.push = Model.push) (es : List Cols) (c : Cols) (m : Mach)
    (hl : m.locals = [("result", .cont c)]) (hp : (Model.extend c es).panicked = false) :
    forList (forElem env "element" [(.expr (.mcall (.var "result") "push" [(.var "element")]))]) es m =
      .ok () { m with locals := [("result", .cont (Model.extend c es).st)] } := by
  induction es generalizing c m with
  | nil => rw [forList, Model.extend, ← hl]
  | cons e es ih =>
    obtain ⟨hp1, hp2⟩ := extend_panicked_cons hp
    rw [forList, forElem]
    simp only [lpstep, hl, String.reduceEq, ↓reduceIte, hpush, hp1, Bool.false_eq_true]
    rw [ih (Model.push c e).st _ rfl hp2]
    simp only [Model.extend, hp1, Bool.false_eq_true, ↓reduceIte]

/-- **`FromIterator::from_iter`** as extracted: the collected vector is `Model.extend` of the empty vector -/
theorem from_iter_tie (dr : Bool) (empty self : Cols) (tr : Cols → Nat → Out) (sw : Cols → Nat → Nat → Out) (es : List Cols)
    (fuel : Nat) (hp : (Model.extend empty es).panicked = false) :
    run { dr := dr, ps := [.elems es], M := methodsWith empty tr sw, fuel := fuel } lp_PVec_std_iter_FromIterator_P_from_iter self =
      some { st := self, ret := some (Model.extend empty es).st } := by
  unfold run
  simp only [lp_PVec_std_iter_FromIterator_P_from_iter, lpstep]
  rw [fi_loop _ rfl es empty _ rfl hp]
  simp only [lpstep, ↓reduceIte]
  rfl

end Soa.Lp
