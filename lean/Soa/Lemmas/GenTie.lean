import Soa.Model.Exec
import Soa.Lemmas.SkelTie
import Soa.Lemmas.SkelRefsTie
import Soa.Lemmas.LoopTieW
/-!
# What the driver executes is the hand-written model (on every lockstep container)

`Soa.Exec.Gen.*` are the functions the compiled model driver runs for the vector API: the
skeletons and statement trees extracted from /repo on this run, composed the way the
generated code composes them (the loops call the *extracted* `pop` / `push` / `truncate` /
`swap`).  Here: each of them equals the hand-written `Model.*` function on every lockstep
container of every shape — so every property theorem about `Model.*` is a theorem about
what was extracted, and the `I` lines the driver prints are those of the extracted code.
-/
namespace Soa.Exec.Gen
open Soa.Sk Soa.Lp

variable {c e : Cols} {n : Nat}

theorem push_eq (dr : Bool) (c e : Cols) : push dr c e = Model.push c e := by simp [push, push_tie]
theorem pop_eq (dr : Bool) (c : Cols) : pop dr c = Model.pop c := by simp [pop, pop_tie]
theorem remove_eq (dr : Bool) (c : Cols) (i : Nat) : remove dr c i = Model.remove c i := by simp [remove, remove_tie]
theorem swapRemove_eq (dr : Bool) (c : Cols) (i : Nat) : swapRemove dr c i = Model.swapRemove c i := by
  simp [swapRemove, swap_remove_tie]
theorem append_eq (dr : Bool) (c d : Cols) : append dr c d = Model.append c d := by simp [append, append_tie]
theorem splitOff_eq (dr : Bool) (c : Cols) (i : Nat) : splitOff dr c i = Model.splitOff c i := by simp [splitOff, split_off_tie]
theorem insert_eq (dr : Bool) (i : Nat) (hc : c.lock n) (he : e.lock 1) (hs : c.same e) :
    insert dr c i e = Model.insert dr c i e := by simp [insert, insert_tie dr i hc he hs]
theorem replace_eq (dr : Bool) (i : Nat) (hc : c.lock n) (he : e.lock 1) (hs : c.same e) :
    replace dr c i e = Model.replace dr c i e := by simp [replace, replace_tie dr i hc he hs]

theorem swOk_swapWhole : SwOk swapWhole := by
  intro c n a b hc ha hb
  have hfl := firstLen_lock c n hc
  simp [swapWhole, swap_tie, hfl, ha, hb, modelSwap]

theorem methods0_eq (dr : Bool) (empty : Cols) : methods0 dr empty = methodsWith empty (Model.truncate dr) swapWhole := by
  have h1 : pop dr = Model.pop := funext (pop_eq dr)
  have h2 : push dr = Model.push := by funext c e; exact push_eq dr c e
  simp [methods0, methodsWith, h1, h2]

theorem truncate_eq (dr : Bool) (k : Nat) (hc : c.lock n) : truncate dr c k = Model.truncate dr c k := by
  simp [truncate, methods0_eq, truncate_tie dr k c c (Model.truncate dr) swapWhole n (c.firstLen + 2) hc
    (by rw [firstLen_lock c n hc]; omega)]

theorem trOk_truncate (dr : Bool) : TrOk dr (truncate dr) := fun _ _ k hc => truncate_eq dr k hc

theorem methods_eq (dr : Bool) (empty : Cols) : methods dr empty = methodsWith empty (truncate dr) swapWhole := by
  simp [methods, methods0_eq, methodsWith]

theorem clear_eq (dr : Bool) (hc : c.lock n) : clear dr c = Model.clear dr c := by
  simp [clear, methods_eq, clear_tie dr c c (truncate dr) swapWhole (trOk_truncate dr) n (c.firstLen + 2) hc]

theorem dropVec_eq (dr : Bool) (hc : c.lock n) : dropVec dr c = Model.dropVec dr c := by
  simp [dropVec, methods_eq, drop_tie dr c c (truncate dr) swapWhole n (c.firstLen + 2) hc
    (by rw [firstLen_lock c n hc]; omega)]

/-- `retain` and `retain_mut`, with any answers, any panicking call and any writes by the callback -/
theorem retain_eq_w (dr mut_ : Bool) (keep : Nat → Bool) (boom : Option Nat) (touch : Nat → Nat → Option (Nat × Nat))
    (hc : c.lock n) :
    retain dr mut_ c keep boom touch = Model.retain dr c keep boom touch := by
  have h := retain_tie_w dr c c (truncate dr) swapWhole (trOk_truncate dr) swOk_swapWhole keep boom touch n (c.firstLen + 2) hc
  cases mut_ <;> simp [retain, methods_eq, h.1, h.2]

/-- `retain` and `retain_mut` with a callback that does not write -/
theorem retain_eq (dr mut_ : Bool) (keep : Nat → Bool) (boom : Option Nat) (hc : c.lock n) :
    retain dr mut_ c keep boom (fun _ _ => none) = Model.retain dr c keep boom (fun _ _ => none) :=
  retain_eq_w dr mut_ keep boom _ hc

theorem resize_eq (dr : Bool) (k : Nat) (hc : c.lock n) (he : e.lock 1) (hs : c.same e) :
    resize dr c k e = Model.resize dr c k e := by
  simp [resize, methods_eq, resize_tie dr c c e (truncate dr) swapWhole (trOk_truncate dr) k n (c.firstLen + 2) hc he hs]

theorem extend_eq (dr : Bool) (c : Cols) (es : List Cols) : extend dr c es = Model.extend c es := by
  simp [extend, methods_eq, extend_tie]

theorem fromIter_eq (dr : Bool) (empty : Cols) (es : List Cols) (hp : (Model.extend empty es).panicked = false) :
    fromIter dr empty es = Model.extend empty es := by
  have h := from_iter_tie dr empty empty (truncate dr) swapWhole es 2 hp
  unfold fromIter
  rw [methods_eq, h]
  -- `Model.extend` sets `st` and `panicked` only, which is what the interpreter reports of the returned vector
  rw [extend_shape es empty, hp]

/-- the extracted `Extend<Ref>::extend` reads as the `Extend<T>` loop over `to_owned` copies -/
theorem extendRefs_reads : isOwnedExtend Extracted.lp_PVec_Extend_PRef_a_extend = true := by decide +kernel

/-- `Extend<Ref>` (`vec.extend(&other)`, `vec.extend(other.iter())`) is `extend_from_slice`: the elements of the
    source cloned one whole element at a time, so a panicking `Clone` leaves whole elements only -/
theorem extendRefs_eq (dr : Bool) (c src : Cols) : extendRefs dr c src = Model.extendFromSlice c src := by
  unfold extendRefs
  rw [extendRefs_reads]
  simp only [↓reduceIte, extend_eq]
  rfl

/-- `extend_from_slice`: contents and panic flag (the clone events are the same up to their order) -/
theorem extendFromSlice_core (dr : Bool) (c d : Cols) :
    core (extendFromSlice dr c d) = core (Model.extendFromSlice c d) := by
  obtain ⟨o, ho, h⟩ := Option.map_eq_some_iff.mp (extend_from_slice_tie dr c c d (truncate dr) swapWhole (c.firstLen + 2))
  rw [extendFromSlice, methods_eq, ho, Option.getD_some, h]
  rfl

end Soa.Exec.Gen
