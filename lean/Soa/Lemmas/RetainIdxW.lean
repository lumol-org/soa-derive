import Soa.Lemmas.RetainIdx
/-!
# The `retain_mut` loop without a panicking call

`loopW` is `RetainIdx.loopB` with `boom = none` and the panic flag dropped; `loopW_filter` is read off `loopB_spec`.
-/
namespace Soa.RetainIdx
variable {α : Type}

def loopW (keep : Nat → Bool) (upd : Nat → α → α) : Nat → Nat → Nat → List α → List α → List α × Nat × List α
  | 0, _, del, xs, vis => (xs, del, vis)
  | f + 1, i, del, xs, vis =>
    match xs[i]? with
    | none => (xs, del, vis)
    | some x =>
      let xs := xs.set i (upd i x)
      if !keep i then loopW keep upd f (i + 1) (del + 1) xs (vis ++ [x])
      else if del > 0 then loopW keep upd f (i + 1) del (swapList xs (i - del) i) (vis ++ [x])
      else loopW keep upd f (i + 1) del xs (vis ++ [x])

theorem loopW_eq (keep : Nat → Bool) (upd : Nat → α → α) : ∀ (f i del : Nat) (xs vis : List α),
    loopB keep none upd f i del xs vis =
      ((loopW keep upd f i del xs vis).1, (loopW keep upd f i del xs vis).2.1, (loopW keep upd f i del xs vis).2.2, false)
  | 0, _, _, _, _ => rfl
  | f + 1, i, del, xs, vis => by
    simp only [loopB, loopW]
    cases xs[i]? with
    | none => rfl
    | some x =>
      simp only [reduceCtorEq, ↓reduceIte]
      split
      · exact loopW_eq keep upd f _ _ _ _
      · split <;> exact loopW_eq keep upd f _ _ _ _

/-- loop + final truncate = filtering the written elements by the answers; the callback was shown
    every element once, in order, as it was before its write -/
theorem loopW_filter (keep : Nat → Bool) (upd : Nat → α → α) (xs : List α) :
    let r := loopW keep upd xs.length 0 0 xs []
    r.2.2 = xs ∧
    r.1.take (xs.length - r.2.1) = filterIdx keep 0 (updFrom upd 0 xs) ∧ r.1.length = xs.length ∧ r.2.1 ≤ xs.length := by
  obtain ⟨junk, h, _, hl⟩ := loopB_spec keep upd xs
  rw [loopW_eq] at h
  simp only [Prod.mk.injEq] at h
  obtain ⟨h1, h2, h3, _⟩ := h
  simp only [h1, h2, h3, List.length_append, true_and]
  -- `hl`: the kept elements and the junk make up the whole length
  exact ⟨List.take_left' (by omega), hl, by omega⟩

end Soa.RetainIdx
