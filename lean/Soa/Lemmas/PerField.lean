import Soa.Lemmas.Refine
/-!
# Per-field methods refine the std operation on rows

One statement covering both branches: if the std operation succeeds on the rows, the
per-field application does not panic, yields the transposed results and stays in lockstep;
if it fails, the first field panics and nothing has changed.
-/
namespace Soa

inductive PerFieldSpec (op : PolyOp) (c a : Cols) (n k : Nat) : Prop where
  | ok (s : List Elem × List Elem)
      (hrun : op.run c.rows a.rows = some s)
      (hfail : op.fails n k = false)
      (hp : (c.apply2 op a).panicked = false)
      (hst : (c.apply2 op a).st.rows = s.1)
      (hout : (c.apply2 op a).out.rows = s.2)
      (hlock : (c.apply2 op a).st.lock s.1.length)
      (hlockOut : (c.apply2 op a).out.lock s.2.length)
      (hsame : c.same (c.apply2 op a).st)
      (hsameOut : c.same (c.apply2 op a).out)
  | fail
      (hrun : op.run c.rows a.rows = none)
      (hfail : op.fails n k = true)
      (hp : (c.apply2 op a).panicked = true)
      (hst : (c.apply2 op a).st = c)
      (hout : (c.apply2 op a).out = a)

theorem perField (op : PolyOp) (c a : Cols) (n k : Nat)
    (hc : c.lock n) (ha : a.lock k) (hs : c.same a) : PerFieldSpec op c a n k := by
  cases hf : op.fails n k with
  | false =>
    obtain ⟨s, hr, hp, h1, h2, h3, h4, h5, h6⟩ := apply2_run op n k hf c a hc ha hs
    exact .ok s hr hf hp h1 h2 h3 h4 h5 h6
  | true =>
    obtain ⟨h1, h2, h3⟩ := apply2_fail op n k hf c a hc ha hs
    exact .fail (op.run_none hf _ _ (rows_len n c hc) (rows_len k a ha)) hf h1 h2 h3

/-- callers give `(op := popOp)` (or another operation of `Soa.Ops`) and `rfl` for `hop`: elaborating it unfolds the
    operation and finds `ok` and `f` -/
theorem apply2_total {op : PolyOp} {ok f hnat} (hop : op = .ofTotal ok f hnat) (c a : Cols) (n k : Nat)
    (hc : c.lock n) (ha : a.lock k) (hs : c.same a) (hok : ok n k = true) :
    (c.apply2 op a).panicked = false ∧
    (c.apply2 op a).st.rows = (f c.rows a.rows).1 ∧ (c.apply2 op a).out.rows = (f c.rows a.rows).2 ∧
    (c.apply2 op a).st.lock (f c.rows a.rows).1.length ∧ (c.apply2 op a).out.lock (f c.rows a.rows).2.length ∧
    c.same (c.apply2 op a).st ∧ c.same (c.apply2 op a).out := by
  subst hop
  obtain ⟨s, hrun, h⟩ := apply2_run (.ofTotal ok f hnat) n k (by simp [hok]) c a hc ha hs
  simp only [PolyOp.ofTotal_run, rows_len n c hc, rows_len k a ha, hok, ↓reduceIte, Option.some.injEq] at hrun
  exact hrun ▸ h

end Soa
