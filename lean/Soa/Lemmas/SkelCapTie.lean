import Soa.Model.SkelCap
import Soa.Lemmas.SkelRead.C12
import Soa.Lemmas.Cap
/-!
# Capacity API: the extracted methods are the capacity model

`reserve`, `reserve_exact`, `shrink_to_fit`, `with_capacity` as extracted from /repo are the
per-leaf std policies of `Soa/Model/Cap.lean` applied to every leaf; the extracted
`capacity()` — a `min` fold in which a nested field contributes its own `capacity()` — is
the smallest leaf capacity, for every shape.
-/
namespace Soa.Sk
open Soa.Cap Soa.Extracted Soa.Sk.Expected

theorem mapCaps_total (g : Char → Nat → Nat) : ∀ l : List (Char × Nat),
    mapCaps (fun k c => some (g k c)) l = some (l.map (fun p => (p.1, g p.1 p.2)))
  | [] => rfl
  | p :: ps => by simp [mapCaps, mapCaps_total g ps]

theorem runCapStmts_map {f : Fn} {le : FE} {s : St} {ps : List Nat} {g : Char → Nat → Nat}
    (hr : skOf f = .stmts {} (.stmt le) (.stmt le) none) (hn : nestOkView f.name le le = true)
    (hg : ∀ k c, capLeaf ps s.len le k c = some (g k c)) : runCapStmts f s ps = some (s.map s.len g) := by
  have : capLeaf ps s.len le = fun k c => some (g k c) := funext fun k => funext (hg k)
  simp [runCapStmts, hr, hn, this, mapCaps_total, St.map]

theorem reserve_tie (s : St) (n : Nat) : runCapStmts sk_PVec_reserve s [n] = some (s.reserve n) :=
  runCapStmts_map read_PVec_reserve (nestOkView_call ..) fun _ _ => by rw [capLeaf]; rfl

theorem reserve_exact_tie (s : St) (n : Nat) : runCapStmts sk_PVec_reserve_exact s [n] = some (s.reserveExact n) :=
  runCapStmts_map read_PVec_reserve_exact (nestOkView_call ..) fun _ _ => by rw [capLeaf]; rfl

theorem shrink_to_fit_tie (s : St) : runCapStmts sk_PVec_shrink_to_fit s [] = some s.shrink :=
  runCapStmts_map read_PVec_shrink_to_fit (nestOkView_call ..) fun _ _ => by rw [capLeaf]

theorem with_capacity_tie (kinds : List Char) (n : Nat) :
    runWithCapacity sk_PVec_with_capacity kinds n = some (St.new kinds n) := by
  have hn : sk_PVec_with_capacity.name = "with_capacity" := rfl
  rw [runWithCapacity, isWithCapacity, read_PVec_with_capacity, exp_PVec_with_capacity]
  simp [hn]

theorem le_capOf_iff (m : Nat) : ∀ t : CapT, t.wf → (m ≤ capOf t ↔ ∀ p ∈ t.flat, m ≤ p.2)
  | .leaf p, _ => by simp [capOf, VT.flat]
  | .nest fs, h => by
    rw [VT.wf] at h
    rw [VT.flat, ← go fs h.2]
    cases fs with
    | nil => exact absurd rfl h.1
    | cons f fs =>
      simp only [capOf, capOf.capsL, Cap.le_foldl_min fun x => x]
      exact and_iff_right_of_imp fun hx => hx _ (List.mem_cons_self ..)
where go : ∀ fs : List CapT, (∀ f ∈ fs, f.wf) →
    ((∀ x ∈ capOf.capsL fs, m ≤ x) ↔ ∀ p ∈ VT.flat.flatL fs, m ≤ p.2)
  | [], _ => by simp [capOf.capsL, VT.flat.flatL]
  | f :: fs, h => by
    rw [List.forall_mem_cons] at h
    simp only [capOf.capsL, VT.flat.flatL, List.forall_mem_cons, List.forall_mem_append, le_capOf_iff m f h.1, go fs h.2]

theorem flat_ne_nil : ∀ t : CapT, t.wf → t.flat ≠ []
  | .leaf _, _ => nofun
  | .nest [], h => by rw [VT.wf] at h; exact absurd rfl h.1
  | .nest (f :: _), h => by
    rw [VT.wf] at h
    exact fun hh => flat_ne_nil f (h.2 f (.head _)) (List.append_eq_nil_iff.mp hh).1

/-- the extracted `capacity()` on a vector of any shape is the smallest leaf capacity -/
theorem capacity_tie (t : CapT) (ht : t.wf) (len : Nat) :
    runCapacity sk_PVec_capacity t = some (St.capacity { len := len, caps := t.flat }) := by
  rw [runCapacity, if_pos (by rw [isCapacity, read_PVec_capacity]; rfl)]
  -- both sides are the greatest lower bound of the leaf capacities
  have hc := Cap.le_capacity { len := len, caps := t.flat } (flat_ne_nil t ht)
  exact congrArg some (Nat.le_antisymm ((hc _).mpr ((le_capOf_iff _ t ht).mp (Nat.le_refl _)))
    ((le_capOf_iff _ t ht).mpr ((hc _).mp (Nat.le_refl _))))

end Soa.Sk
