import Soa.Model.Vec
import Soa.Lemmas.PerField
/-!
# `pop`, `swap`, `push` and the one-row read on a lockstep container, read off the transposition
theorem; the push loop and the pop loop in closed form on the rows.
-/
namespace Soa

theorem one_row : ∀ e : Cols, e.lock 1 → ∃ r : Elem, e.rows = [r] ∧ e.flat = r.ids
  | .leaf xs, h => match xs, lock_leaf.mp h with
    | [v], _ => ⟨.leaf v, rfl, rfl⟩
  | .nest fs, h => by
    obtain ⟨rs, h1, h2⟩ := go fs (lock_nest.mp h).1 (lock_nest.mp h).2
    exact ⟨.nest rs, congrArg (List.map Elem.nest) h1, h2⟩
where go : ∀ fs : List Cols, fs ≠ [] → (∀ c ∈ fs, c.lock 1) →
    ∃ rs : List Elem, Cols.rows.rowsL fs = [rs] ∧ (Cols.leaves.leavesL fs).flatten = Elem.ids.idsL rs
  | [], h, _ => absurd rfl h
  | [c], _, h => by
    obtain ⟨r, h1, h2⟩ := one_row c (h c (.head _))
    exact ⟨[r], congrArg (List.map fun e => [e]) h1, List.flatten_append.trans (congrArg (· ++ []) h2)⟩
  | c :: c' :: cs, _, h => by
    obtain ⟨r, h1, h2⟩ := one_row c (h c (.head _))
    obtain ⟨rs, h3, h4⟩ := go (c' :: cs) nofun fun x hx => h x (.tail _ hx)
    exact ⟨r :: rs, by rw [Cols.rows.rowsL, h1, h3]; rfl, List.flatten_append.trans (congr (congrArg _ h2) h4)⟩

theorem rowCols_ok (c : Cols) (n i : Nat) (hc : c.lock n) (hi : i < n) :
    ∃ r, c.rows[i]? = some r ∧ (Model.rowCols c i).rows = [r] ∧ (Model.rowCols c i).lock 1 ∧ c.same (Model.rowCols c i) := by
  have hi' : i < c.rows.length := by rw [rows_len n c hc]; exact hi
  obtain ⟨_, _, hout, _, hlo, _, hso⟩ :=
    apply2_total (op := pickOp [i]) rfl c _ n 0 hc (lock_noArgs c n hc) (same_const [] c) (by simp [hi])
  simp only [List.filterMap_cons, List.getElem?_eq_getElem hi', List.filterMap_nil] at hout hlo
  exact ⟨_, List.getElem?_eq_getElem hi', hout, hlo, hso⟩

/-- the elements `extend_from_slice` pushes: one-row trees of the source's shape -/
theorem rowCols_range {c d : Cols} {k : Nat} (hd : d.lock k) (hs : c.same d) :
    ∀ x ∈ (List.range k).map (Model.rowCols d), x.lock 1 ∧ c.same x :=
  List.forall_mem_map.mpr fun i hi =>
    have ⟨_, _, _, hl, hsm⟩ := rowCols_ok d k i hd (List.mem_range.mp hi)
    ⟨hl, same_trans _ _ _ hs hsm⟩

theorem rowAt_eq (c : Cols) (n i : Nat) (hc : c.lock n) (hi : i < n) :
    ∃ r, c.rows[i]? = some r ∧ Model.rowAt c i = r.ids := by
  obtain ⟨r, hr, hrows, hl, _⟩ := rowCols_ok c n i hc hi
  obtain ⟨r', h1, h2⟩ := one_row _ hl
  rw [hrows] at h1
  cases h1
  exact ⟨r, hr, h2⟩

theorem pop_ok (c : Cols) (n : Nat) (hc : c.lock (n + 1)) :
    ∃ st e, Model.pop c = { st := st, ret := some e } ∧ st.lock n ∧ e.lock 1 ∧ c.same st ∧
      st.rows = c.rows.take n ∧ e.rows = c.rows.drop n := by
  have hlen := rows_len (n + 1) c hc
  obtain ⟨hp, hst, hout, hl, hlo, hsm, _⟩ :=
    apply2_total (op := popOp) rfl c _ (n + 1) 0 hc (lock_noArgs c _ hc) (same_const [] c) (by simp)
  simp only [hlen, Nat.add_sub_cancel, List.length_take, List.length_drop] at hst hout hl hlo
  refine ⟨_, _, ?_, by simpa using hl, by simpa using hlo, hsm, hst, hout⟩
  simp [Model.pop, firstLen_lock c (n + 1) hc, hp]

theorem pop_zero (c : Cols) (hc : c.lock 0) : Model.pop c = { st := c, isNone := true } := by
  simp [Model.pop, firstLen_lock c 0 hc]

theorem swap_ok (c : Cols) (n a b : Nat) (hc : c.lock n) (ha : a < n) (hb : b < n) :
    (c.apply2 (swapOp a b) (Model.noArgs c)).panicked = false ∧ (c.apply2 (swapOp a b) (Model.noArgs c)).st.lock n ∧
    c.same (c.apply2 (swapOp a b) (Model.noArgs c)).st ∧ (c.apply2 (swapOp a b) (Model.noArgs c)).st.rows = swapList c.rows a b := by
  obtain ⟨hp, hst, _, hl, _, hsm, _⟩ :=
    apply2_total (op := swapOp a b) rfl c _ n 0 hc (lock_noArgs c n hc) (same_const [] c) (by simp [ha, hb])
  exact ⟨hp, by simpa [rows_len n c hc] using hl, hsm, hst⟩

theorem pop_cases (c : Cols) :
    Model.pop c = { st := c, isNone := true } ∨
    ((c.apply2 popOp (c.const [])).panicked = true ∧
      Model.pop c = { st := (c.apply2 popOp (c.const [])).st, panicked := true,
                      ev := dropFields (c.apply2 popOp (c.const [])).out }) ∨
    ((c.apply2 popOp (c.const [])).panicked = false ∧
      Model.pop c = { st := (c.apply2 popOp (c.const [])).st, ret := some (c.apply2 popOp (c.const [])).out }) := by
  rw [Model.pop]
  by_cases h0 : c.firstLen = 0
  · exact .inl (if_pos h0)
  · rw [if_neg h0]
    by_cases hp : (c.apply2 popOp (c.const [])).panicked = true
    · exact .inr (.inl ⟨hp, if_pos hp⟩)
    · exact .inr (.inr ⟨eq_false_of_ne_true hp, if_neg hp⟩)

theorem push_ok {c e : Cols} {n : Nat} (hc : c.lock n) (he : e.lock 1) (hs : c.same e) :
    (Model.push c e).panicked = false ∧ (Model.push c e).st.rows = c.rows ++ e.rows ∧ (Model.push c e).st.lock (n + 1) ∧
      c.same (Model.push c e).st := by
  obtain ⟨hp, hst, _, hl, _, hsm, _⟩ := apply2_total (op := appendOp) rfl c e n 1 hc he hs rfl
  rw [List.length_append, rows_len n c hc, rows_len 1 e he] at hl
  exact ⟨hp, hst, hl, hsm⟩

theorem extend_cons {c e : Cols} {es : List Cols} {n : Nat} (hc : c.lock n) (he : ∀ x ∈ e :: es, x.lock 1 ∧ c.same x) :
    Model.extend c (e :: es) = Model.extend (Model.push c e).st es ∧ (Model.push c e).st.rows = c.rows ++ e.rows ∧
    (Model.push c e).st.lock (n + 1) ∧ c.same (Model.push c e).st ∧ ∀ x ∈ es, x.lock 1 ∧ (Model.push c e).st.same x := by
  obtain ⟨⟨he1, hs1⟩, hes⟩ := List.forall_mem_cons.mp he
  obtain ⟨hp, hst, hl, hsm⟩ := push_ok hc he1 hs1
  exact ⟨if_neg (ne_true_of_eq_false hp), hst, hl, hsm,
    fun x hx => ⟨(hes x hx).1, same_trans _ _ _ (same_symm _ _ hsm) (hes x hx).2⟩⟩

/-- **the push loop** (`extend`, `FromIterator`, `resize`, `extend_from_slice`) over elements of the container's shape
    never panics and appends their rows -/
theorem extend_ok : ∀ (es : List Cols) (c : Cols) (n : Nat), c.lock n → (∀ e ∈ es, e.lock 1 ∧ c.same e) →
    (Model.extend c es).panicked = false ∧ (Model.extend c es).st.rows = c.rows ++ (es.map Cols.rows).flatten ∧
    (∃ m, (Model.extend c es).st.lock m) ∧ c.same (Model.extend c es).st
  | [], c, n, hc, _ => ⟨rfl, (List.append_nil _).symm, ⟨n, hc⟩, same_refl c⟩
  | e :: es, c, n, hc, he => by
    obtain ⟨hx, hst, hl, hsm, hes⟩ := extend_cons hc he
    have ih := extend_ok es _ _ hl hes
    rw [hx, List.map_cons, List.flatten_cons, ← List.append_assoc, ← hst]
    exact ⟨ih.1, ih.2.1, ih.2.2.1, same_trans _ _ _ hsm ih.2.2.2⟩

theorem Lp.extend_shape : ∀ (es : List Cols) (c : Cols),
    Model.extend c es = { st := (Model.extend c es).st, panicked := (Model.extend c es).panicked } := by
  intro es c
  fun_induction Model.extend c es with
  | case3 => assumption
  | _ => rfl

theorem dropRows_append (dr : Bool) (a b : List Elem) : dropRows dr (a ++ b) = dropRows dr a ++ dropRows dr b := by
  show _ = Ev.append _ _
  cases dr <;> simp [dropRows, Ev.append]

theorem dropWhole_one (dr : Bool) (e : Cols) (he : e.lock 1) : dropWhole dr e = dropRows dr e.rows := by
  obtain ⟨r, h1, h2⟩ := one_row e he
  -- the first field array holds one value, the first id of the row
  have h3 : e.firstLeaf = [r.firstId] := by
    rw [Cols.firstLeaf, Elem.firstId, ← h2, Cols.flat]
    match e.leaves, leaves_ne_nil e 1 he, leaves_lock 1 e he with
    | l :: _, _, h => match l, h l (.head _) with
      | [v], _ => rfl
  simp [dropWhole, dropRows, h1, h2, h3]

/-- **the pop loop** of `truncate` / `clear` / `Drop` **in closed form**: on a lockstep container, with enough fuel, it
    leaves the first `k` rows and destroys the others as whole struct values, last first -/
theorem truncateLoop_eq (dr : Bool) (k : Nat) : ∀ (fuel n : Nat) (c : Cols) (ev : Ev), c.lock n → n - k < fuel →
    ∃ st, Model.truncateLoop dr k fuel c ev = { st := st, ev := ev ++ dropRows dr (c.rows.drop k).reverse } ∧
      st.rows = c.rows.take k ∧ st.lock (min n k) ∧ c.same st
  | 0, _, _, _, _, h => absurd h (Nat.not_lt_zero _)
  | fuel + 1, n, c, ev, hc, hf => by
    have hlen := rows_len n c hc
    rw [Model.truncateLoop, firstLen_lock c n hc]
    split
    · next hk =>
      obtain ⟨m, rfl⟩ : ∃ m, n = m + 1 := ⟨n - 1, (Nat.sub_add_cancel (Nat.zero_lt_of_lt hk)).symm⟩
      have hkm : k ≤ m := Nat.le_of_lt_succ hk
      obtain ⟨st, e, hpop, hl, he, hsm, hrows, herows⟩ := pop_ok c m hc
      obtain ⟨st', h, h1, h2, h3⟩ := truncateLoop_eq dr k fuel m st (ev ++ dropWhole dr e) hl
        (Nat.lt_of_succ_lt_succ (Nat.succ_sub hkm ▸ hf))
      rw [hpop]
      refine ⟨st', ?_, ?_, ?_, same_trans _ _ _ hsm h3⟩
      · -- the rows destroyed: the last one in this round, the others (reversed) in the later ones
        obtain ⟨r, hr, _⟩ := one_row e he
        have hsplit : c.rows = st.rows ++ [r] := by rw [hrows, ← hr, herows, List.take_append_drop]
        show Model.truncateLoop dr k fuel st (ev ++ dropWhole dr e) = _
        rw [h, dropWhole_one dr e he, hr, Ev.append_assoc, ← dropRows_append, hsplit,
          List.drop_append_of_le_length (rows_len m st hl ▸ hkm), List.reverse_append]
        rfl
      · rw [h1, hrows, List.take_take, Nat.min_eq_left hkm]
      · rw [Nat.min_eq_right hkm] at h2
        rwa [Nat.min_eq_right (Nat.le_succ_of_le hkm)]
    · next hk =>
      have hnk : n ≤ k := Nat.not_lt.mp hk
      refine ⟨c, ?_, ?_, ?_, same_refl c⟩
      · rw [List.drop_of_length_le (hlen ▸ hnk)]; simp [dropRows]
      · rw [List.take_of_length_le (hlen ▸ hnk)]
      · rwa [Nat.min_eq_left hnk]

theorem truncate_eq (dr : Bool) (k n : Nat) (c : Cols) (hc : c.lock n) :
    ∃ st, Model.truncate dr c k = { st := st, ev := dropRows dr (c.rows.drop k).reverse } ∧
      st.rows = c.rows.take k ∧ st.lock (min n k) ∧ c.same st := by
  obtain ⟨st, h, hr⟩ := truncateLoop_eq dr k (c.firstLen - k + 1) n c {} hc (firstLen_lock c n hc ▸ Nat.lt_succ_self _)
  exact ⟨st, by rw [Model.truncate, h, Ev.empty_append], hr⟩

end Soa
