import Soa.Ops
/-!
# The generated `retain` / `retain_mut` loop on one list, with decisions by call index

`for i in 0..len { if !f(get(i)) { del += 1 } else if del > 0 { swap(i - del, i) } }` then
`truncate(len - del)`.  `keep i` is the callback's answer at its `i`-th call, `upd i x` what it
leaves in the element it is shown (`retain`: `upd i x = x`), `boom` the call that panics.

One invariant (`loopB_inv`): before call `i` the list is `kept ++ junk ++ rest` with `del = |junk|`,
`i = |kept| + |junk|`; the loop ends with the written `rest` split into the kept elements, appended
in order to `kept`, and the rejected ones, which join `junk` in some order.  Everything else is
read off it.
-/
namespace Soa.RetainIdx
variable {α : Type}

/-- the loop, literally; returns the list, `del`, the visit log, panicked -/
def loopB (keep : Nat → Bool) (boom : Option Nat) (upd : Nat → α → α) :
    Nat → Nat → Nat → List α → List α → List α × Nat × List α × Bool
  | 0, _, del, xs, vis => (xs, del, vis, false)
  | f + 1, i, del, xs, vis =>
    match xs[i]? with
    | none => (xs, del, vis, false)
    | some x =>
      let xs := xs.set i (upd i x)
      if boom = some i then (xs, del, vis ++ [x], true)
      else if !keep i then loopB keep boom upd f (i + 1) (del + 1) xs (vis ++ [x])
      else if del > 0 then loopB keep boom upd f (i + 1) del (swapList xs (i - del) i) (vis ++ [x])
      else loopB keep boom upd f (i + 1) del xs (vis ++ [x])

theorem loopB_succ (keep : Nat → Bool) (boom : Option Nat) (upd : Nat → α → α) (f i del : Nat) (xs vis : List α) (x : α)
    (hx : xs[i]? = some x) :
    loopB keep boom upd (f + 1) i del xs vis =
      (if boom = some i then (xs.set i (upd i x), del, vis ++ [x], true)
       else if !keep i then loopB keep boom upd f (i + 1) (del + 1) (xs.set i (upd i x)) (vis ++ [x])
       else if del > 0 then loopB keep boom upd f (i + 1) del (swapList (xs.set i (upd i x)) (i - del) i) (vis ++ [x])
       else loopB keep boom upd f (i + 1) del (xs.set i (upd i x)) (vis ++ [x])) := by
  rw [loopB, hx]

/-- answers by index, starting at index `i` -/
def filterIdx (keep : Nat → Bool) : Nat → List α → List α
  | _, [] => []
  | i, x :: r => if keep i then x :: filterIdx keep (i + 1) r else filterIdx keep (i + 1) r

/-- the writes of calls `i`, `i + 1`, … applied to a list whose head is at position `i` -/
def updFrom (upd : Nat → α → α) : Nat → List α → List α
  | _, [] => []
  | i, x :: r => upd i x :: updFrom upd (i + 1) r

@[simp] theorem updFrom_length (upd : Nat → α → α) : ∀ (xs : List α) (i : Nat), (updFrom upd i xs).length = xs.length
  | [], _ => rfl
  | _ :: r, i => by simp [updFrom, updFrom_length upd r]

theorem updFrom_id : ∀ (xs : List α) (i : Nat), updFrom (fun _ x => x) i xs = xs
  | [], _ => rfl
  | _ :: r, i => by simp [updFrom, updFrom_id r]

theorem filterIdx_length (keep : Nat → Bool) : ∀ (xs : List α) (i : Nat),
    (filterIdx keep i xs).length + (filterIdx (fun j => !keep j) i xs).length = xs.length
  | [], _ => rfl
  | _ :: r, i => by
    have := filterIdx_length keep r (i + 1)
    cases h : keep i <;> simp [filterIdx, h] <;> omega

/-- the swap of the loop: the oldest rejected element changes places with the one just kept -/
theorem swap_decomp (kept js r : List α) (j0 x : α) :
    swapList (kept ++ (j0 :: js) ++ x :: r) kept.length (kept.length + (js.length + 1)) =
      (kept ++ [x]) ++ (js ++ [j0]) ++ r := by
  have h1 : (kept ++ (j0 :: js) ++ x :: r)[kept.length]? = some j0 := by simp [List.append_assoc]
  have h2 : (kept ++ (j0 :: js) ++ x :: r)[kept.length + (js.length + 1)]? = some x := by
    rw [List.getElem?_append_right (by simp)]; simp
  unfold swapList
  rw [h1, h2]
  simp only [List.append_assoc, List.cons_append, List.nil_append]
  rw [List.set_append_right _ _ (Nat.le_refl _), List.set_append_right _ _ (Nat.le_add_right _ _)]
  simp only [Nat.sub_self, List.set_cons_zero, Nat.add_sub_cancel_left, List.set_cons_succ]
  rw [List.set_append_right _ _ (Nat.le_refl _)]
  simp

theorem loopB_inv (keep : Nat → Bool) (upd : Nat → α → α) (rest : List α) : ∀ (kept junk vis : List α) (i del : Nat),
    i = kept.length + junk.length → del = junk.length →
    ∃ junk', loopB keep none upd rest.length i del (kept ++ junk ++ rest) vis =
        (kept ++ filterIdx keep i (updFrom upd i rest) ++ junk', junk'.length, vis ++ rest, false) ∧
      junk'.Perm (junk ++ filterIdx (fun j => !keep j) i (updFrom upd i rest)) := by
  induction rest with
  | nil =>
    intro kept junk vis i del _ hd
    exact ⟨junk, by simp [loopB, filterIdx, updFrom, hd], by simp [filterIdx, updFrom]⟩
  | cons x r ih =>
    intro kept junk vis i del hi hd
    have hx : (kept ++ junk ++ x :: r)[i]? = some x := by
      rw [hi, List.getElem?_append_right (by simp)]; simp
    have hset : (kept ++ junk ++ x :: r).set i (upd i x) = kept ++ junk ++ upd i x :: r := by
      rw [hi, List.set_append_right _ _ (by simp)]; simp
    rw [List.length_cons, loopB_succ _ _ _ _ _ _ _ _ _ hx, hset]
    simp only [reduceCtorEq, ↓reduceIte, filterIdx, updFrom]
    cases hk : keep i with
    | false =>
      -- rejected: the written element joins the junk
      obtain ⟨j', h, hp⟩ := ih kept (junk ++ [upd i x]) (vis ++ [x]) (i + 1) (del + 1) (by simp; omega) (by simp; omega)
      exact ⟨j', by simpa using h, by simpa using hp⟩
    | true =>
      simp only [Bool.not_true, Bool.false_eq_true, ↓reduceIte]
      cases junk with
      | nil =>
        obtain ⟨j', h, hp⟩ := ih (kept ++ [upd i x]) [] (vis ++ [x]) (i + 1) del (by simp; omega) hd
        simp only [List.length_nil] at hd
        exact ⟨j', by simpa [hd] using h, by simpa using hp⟩
      | cons j0 js =>
        -- kept after a rejection: swapped down to the end of `kept`; the junk rotates
        simp only [List.length_cons] at hi hd
        obtain ⟨j', h, hp⟩ := ih (kept ++ [upd i x]) (js ++ [j0]) (vis ++ [x]) (i + 1) del (by simp; omega) (by simp; omega)
        refine ⟨j', ?_, hp.trans (List.Perm.append_right _ (List.perm_append_comm (l₁ := js) (l₂ := [j0])))⟩
        have hs := swap_decomp kept js r j0 (upd i x)
        rw [← hi, show kept.length = i - del by omega] at hs
        rw [if_pos (by omega), hs]
        simpa using h

theorem loopB_spec (keep : Nat → Bool) (upd : Nat → α → α) (xs : List α) :
    ∃ junk, loopB keep none upd xs.length 0 0 xs [] =
        (filterIdx keep 0 (updFrom upd 0 xs) ++ junk, junk.length, xs, false) ∧
      junk.Perm (filterIdx (fun j => !keep j) 0 (updFrom upd 0 xs)) ∧
      (filterIdx keep 0 (updFrom upd 0 xs)).length + junk.length = xs.length := by
  obtain ⟨junk, h, hp⟩ := loopB_inv keep upd xs [] [] [] 0 0 rfl rfl
  refine ⟨junk, by simpa using h, by simpa using hp, ?_⟩
  have := filterIdx_length keep (updFrom upd 0 xs) 0
  rw [hp.length_eq]; simpa using this

theorem loopB_perm (keep : Nat → Bool) (boom : Option Nat) :
    ∀ (f i del : Nat) (xs vis : List α), (loopB keep boom (fun _ x => x) f i del xs vis).1.Perm xs
  | 0, _, _, xs, _ => by simp [loopB]
  | f + 1, i, del, xs, vis => by
    cases hx : xs[i]? with
    | none => simp [loopB, hx]
    | some x =>
      rw [loopB_succ _ _ _ _ _ _ _ _ _ hx, set_self _ _ _ hx]
      split
      · exact .refl _
      · split
        · exact loopB_perm keep boom f _ _ xs _
        · split
          · exact (loopB_perm keep boom f _ _ _ _).trans (swapList_perm xs _ _)
          · exact loopB_perm keep boom f _ _ xs _

end Soa.RetainIdx
