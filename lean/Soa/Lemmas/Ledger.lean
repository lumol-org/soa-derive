import Soa.Own
import Soa.Lemmas.Refine
namespace Soa

theorem flat_eq_ids : ∀ c : Cols, c.flat = c.ids
  | .leaf xs => List.append_nil xs
  | .nest fs => go fs
where go : ∀ fs : List Cols, (Cols.leaves.leavesL fs).flatten = Cols.ids.idsL fs
  | [] => rfl
  | c :: cs => List.flatten_append.trans (congr (congrArg _ (flat_eq_ids c)) (go cs))

theorem apply2_conserve (op : PolyOp) (hl : op.Linear) (c a : Cols) :
    ((c.apply2 op a).st.flat ++ (c.apply2 op a).out.flat).Perm (c.flat ++ a.flat) := by
  simp only [flat_eq_ids]
  exact apply2_ids op hl c a

theorem flat_const_nil : ∀ c : Cols, (c.const []).flat = []
  | .leaf _ => rfl
  | .nest fs => go fs
where go : ∀ fs : List Cols, (Cols.leaves.leavesL (Cols.const.constL [] fs)).flatten = []
  | [] => rfl
  | c :: cs => List.flatten_append.trans (List.append_eq_nil_iff.mpr ⟨flat_const_nil c, go cs⟩)

theorem flat_nil_of_lock0 (c : Cols) (h : c.lock 0) : c.flat = [] :=
  List.flatten_eq_nil_iff.mpr fun l hl => List.eq_nil_of_length_eq_zero (leaves_lock 0 c h l hl)

end Soa
