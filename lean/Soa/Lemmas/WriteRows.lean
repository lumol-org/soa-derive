import Soa.Spec.Vec
import Soa.Lemmas.Positions
/-!
# A write through a mutable element reference, transposed

`*ref.f = new` on the element at position `pos` of the struct-of-arrays container overwrites
position `pos` of one field array (`Model.setLeaf`, `setLeaf_leaves`); on the array of structs it
overwrites one field of the `pos`-th struct (`Spec.setLeafE`).  The two agree for every shape.
-/
namespace Soa
open Soa.Model

/-- also out of range: the shorter list decides what is seen -/
theorem zipWith_set {α β γ : Type} (f : α → β → γ) : ∀ (as : List α) (bs : List β) (i : Nat) (a : α) (b : β),
    (List.zipWith f as bs).set i (f a b) = List.zipWith f (as.set i a) (bs.set i b)
  | [], _, _, _, _ => rfl
  | _ :: _, [], i, _, _ => by cases i <;> rfl
  | _ :: _, _ :: _, 0, _, _ => rfl
  | x :: as, y :: bs, i + 1, a, b => congrArg (f x y :: ·) (zipWith_set f as bs i a b)

theorem setLeaf_rows (leaf pos id n : Nat) : ∀ (c : Cols) (j : Nat) (e : Elem), c.lock n → c.rows[pos]? = some e →
    (setLeaf leaf pos id c j).1.rows = c.rows.set pos (Spec.setLeafE leaf id e j).1 ∧
      (setLeaf leaf pos id c j).2 = (Spec.setLeafE leaf id e j).2
  | .leaf xs, j, e, _, he => by
    obtain ⟨v, -, rfl⟩ := Option.map_eq_some_iff.mp (List.getElem?_map.symm.trans he)
    rw [setLeaf, Spec.setLeafE]
    by_cases hj : j = leaf
    · rw [if_pos hj, if_pos hj]; exact ⟨List.map_set, rfl⟩
    · rw [if_neg hj, if_neg hj]; exact ⟨(set_self _ _ _ he).symm, rfl⟩
  | .nest fs, j, e, hc, he => by
    obtain ⟨es, hes, rfl⟩ := Option.map_eq_some_iff.mp (List.getElem?_map.symm.trans he)
    have := go fs j es (lock_nest.mp hc).2 hes
    exact ⟨(congrArg _ this.1).trans List.map_set, this.2⟩
where go : ∀ (fs : List Cols) (j : Nat) (es : List Elem), (∀ c ∈ fs, c.lock n) →
    (Cols.rows.rowsL fs)[pos]? = some es →
    Cols.rows.rowsL (setLeaf.setLeafL leaf pos id fs j).1 = (Cols.rows.rowsL fs).set pos (Spec.setLeafE.setLeafEL leaf id es j).1 ∧
      (setLeaf.setLeafL leaf pos id fs j).2 = (Spec.setLeafE.setLeafEL leaf id es j).2
  | [c], j, es, hc, hes => by
    obtain ⟨e, he, rfl⟩ := Option.map_eq_some_iff.mp (List.getElem?_map.symm.trans hes)
    have := setLeaf_rows leaf pos id n c j e (hc c (.head _)) he
    exact ⟨(congrArg _ this.1).trans List.map_set, this.2⟩
  | c :: c' :: cs, j, es, hc, hes => by
    rw [rowsL_cons c (c' :: cs) nofun] at hes ⊢
    obtain ⟨e, es', h1, h2, rfl⟩ := List.getElem?_zipWith_eq_some.mp hes
    have ih1 := setLeaf_rows leaf pos id n c j e (hc c (.head _)) h1
    have ih2 := go (c' :: cs) (setLeaf leaf pos id c j).2 es' (fun x hx => hc x (.tail _ hx)) h2
    rw [setLeaf.setLeafL, Spec.setLeafE.setLeafEL]
    dsimp only
    rw [rowsL_cons _ (setLeaf.setLeafL leaf pos id (c' :: cs) _).1 nofun, ih1.1, ih2.1, ih2.2, ih1.2]
    exact ⟨(zipWith_set _ _ _ _ _ _).symm, rfl⟩

theorem setLeafE_out (leaf id : Nat) : ∀ (e : Elem) (j : Nat), leaf < j ∨ j + e.ids.length ≤ leaf →
    Spec.setLeafE leaf id e j = (e, j + e.ids.length)
  | .leaf v, j, h => by rw [Spec.setLeafE, if_neg (h.elim Nat.ne_of_gt Nat.ne_of_lt)]; rfl
  | .nest fs, j, h => by rw [Spec.setLeafE, go fs j h]; rfl
where go : ∀ (es : List Elem) (j : Nat), leaf < j ∨ j + (Elem.ids.idsL es).length ≤ leaf →
    Spec.setLeafE.setLeafEL leaf id es j = (es, j + (Elem.ids.idsL es).length)
  | [], j, _ => rfl
  | e :: es, j, h => by
    rw [Elem.ids.idsL, List.length_append, ← Nat.add_assoc] at h ⊢
    rw [Spec.setLeafE.setLeafEL, setLeafE_out leaf id e j (h.imp_right (Nat.le_trans (Nat.le_add_right _ _))),
      go es (j + e.ids.length) (h.imp_left (Nat.lt_add_right _))]

/-- **a write through a mutable element reference, transposed** (any leaf number, valid or not) -/
theorem writeLeaf_rows (c : Cols) (n leaf pos id : Nat) (e : Elem) (hc : c.lock n) (he : c.rows[pos]? = some e) :
    (writeLeaf c leaf pos id).1.rows = c.rows.set pos (Spec.setLeafE leaf id e 0).1 := by
  have hpos : pos < n := rows_len n c hc ▸ (List.getElem?_eq_some_iff.mp he).1
  unfold writeLeaf
  cases hl : (c.leaves.getD leaf [])[pos]? with
  | some old => exact (setLeaf_rows leaf pos id n c 0 e hc he).1
  | none =>
    -- every field array reaches `pos`, so there is no field array number `leaf`, nor such a leaf in the struct
    have hout : c.leaves.length ≤ leaf := by
      refine Nat.le_of_not_lt fun hlt => ?_
      rw [List.getD_eq_getElem?_getD, List.getElem?_eq_getElem hlt, Option.getD_some, List.getElem?_eq_none_iff,
        leaves_lock n c hc _ (List.getElem_mem hlt)] at hl
      exact Nat.not_le.mpr hpos hl
    -- the struct has one leaf per field array: its ids are read off them
    obtain ⟨r, hr, hids⟩ := rowIds_eq c n pos hc hpos
    cases he.symm.trans hr
    have hlen : e.ids.length = c.leaves.length := (congrArg _ hids).symm.trans (List.length_map _)
    rw [setLeafE_out leaf id e 0 (.inr (by rwa [Nat.zero_add, hlen]))]
    exact (set_self _ _ _ he).symm

theorem setLeaf_leaves (leaf pos id : Nat) : ∀ (c : Cols) (j : Nat),
    (setLeaf leaf pos id c j).1.leaves = (c.leaves.zipIdx j).map (fun p => if p.2 = leaf then p.1.set pos id else p.1) ∧
    (setLeaf leaf pos id c j).2 = j + c.leaves.length
  | .leaf xs, j => by
    refine ⟨?_, rfl⟩
    rw [setLeaf]
    split <;> simp [Cols.leaves, *]
  | .nest fs, j => go fs j
where go : ∀ (fs : List Cols) (j : Nat),
    Cols.leaves.leavesL (setLeaf.setLeafL leaf pos id fs j).1 =
      ((Cols.leaves.leavesL fs).zipIdx j).map (fun p => if p.2 = leaf then p.1.set pos id else p.1) ∧
    (setLeaf.setLeafL leaf pos id fs j).2 = j + (Cols.leaves.leavesL fs).length
  | [], j => ⟨rfl, rfl⟩
  | c :: cs, j => by
    have h1 := setLeaf_leaves leaf pos id c j
    have h2 := go cs (j + c.leaves.length)
    simp only [setLeaf.setLeafL, Cols.leaves.leavesL, h1.1, h1.2, h2.1, h2.2, List.length_append, List.zipIdx_append,
      List.map_append, Nat.add_assoc, and_self]

end Soa
