import Soa.Lemmas.LoopsW
/-! `Vec::retain` / `Vec::retain_mut` of the specification when the callback does not panic: what is kept / discarded
are the written elements filtered by the answers, the callback is shown the elements as they were, and its writes
destroy field values only -/
namespace Soa.Spec
open Soa.Lp RetainIdx

theorem updOf_none : updOf (fun _ _ => none) = fun _ (e : Elem) => e := rfl

theorem retainGo_eq (keep : Nat → Bool) (touch : Nat → Nat → Option (Nat × Nat)) :
    ∀ (rs : List Elem) (k : Nat) (acc : LoopOut), ∃ ds,
    retainGo keep none touch k rs acc =
      { acc with kept := acc.kept ++ filterIdx keep k (updFrom (updOf touch) k rs),
                 gone := acc.gone ++ filterIdx (fun i => !keep i) k (updFrom (updOf touch) k rs),
                 vis := acc.vis ++ rs.map Elem.ids,
                 ev := acc.ev ++ { drops := ds } }
  | [], k, acc => ⟨[], by simp [retainGo, filterIdx, updFrom]⟩
  | e :: es, k, acc => by
    -- one call: the write (if any) destroys one field value, then the element goes to `kept` or to `gone`
    obtain ⟨d, hd⟩ : ∃ d, retainGo keep none touch k (e :: es) acc = retainGo keep none touch (k + 1) es
        { acc with kept := acc.kept ++ filterIdx keep k [updOf touch k e],
                   gone := acc.gone ++ filterIdx (fun i => !keep i) k [updOf touch k e],
                   vis := acc.vis ++ [e.ids], ev := acc.ev ++ { drops := d } } := by
      cases ht : touch k k with
      | none => exact ⟨[], by cases hk : keep k <;> simp [retainGo, updOf, filterIdx, ht, hk]⟩
      | some p => exact ⟨[e.ids.getD p.1 0], by cases hk : keep k <;> simp [retainGo, updOf, filterIdx, ht, hk]⟩
    obtain ⟨ds, h⟩ := retainGo_eq keep touch es (k + 1) _
    refine ⟨d ++ ds, ?_⟩
    rw [hd, h]
    -- field by field; of the events `{ drops := d } ++ { drops := ds } = { drops := d ++ ds }` is left, true by definition
    cases hk : keep k <;> simp [filterIdx, updFrom, hk, Ev.append_assoc] <;> rfl

theorem retain_eq (dr : Bool) (keep : Nat → Bool) (touch : Nat → Nat → Option (Nat × Nat)) (rs : List Elem) : ∃ ds,
    retain dr rs keep none touch =
      { st := filterIdx keep 0 (updFrom (updOf touch) 0 rs),
        ev := { drops := ds } ++ dropRows dr (filterIdx (fun i => !keep i) 0 (updFrom (updOf touch) 0 rs)),
        vis := rs.map Elem.ids } := by
  obtain ⟨ds, h⟩ := retainGo_eq keep touch rs 0 ⟨[], [], [], false, {}, []⟩
  exact ⟨ds, by simp [retain, h]⟩

end Soa.Spec
