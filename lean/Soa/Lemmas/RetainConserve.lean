import Soa.Lemmas.Ledger
import Soa.Lemmas.LoopsW
/-!
# Ownership through `retain` / `retain_mut`, on every tree

A write through a mutable element reference exchanges one value (the old one is destroyed, the
new one was created by the callback); the swap hands nothing out; so the loop, whatever the
callback answers, writes, and wherever it panics, ends owning what it owned plus what was created
minus what was destroyed.  No lockstep hypothesis.  Under lockstep, and without a panic of the
callback, `Model.retain` in closed form (`retain_eq`).
-/
namespace Soa

theorem swap_out_nil (a b : Nat) : ∀ c : Cols, (c.apply2 (swapOp a b) (c.const [])).out.flat = []
  | .leaf xs => by
    rw [Cols.const, Cols.apply2]
    cases hr : (swapOp a b).run xs [] with
    | none => rfl
    -- `swapOp` runs to `if … then some (swapList xs a b, []) else none`
    | some r => cases (Option.ite_none_right_eq_some.mp hr).2; rfl
  | .nest fs => go fs
where go : ∀ fs : List Cols, (Cols.leaves.leavesL (Cols.apply2.apply2L (swapOp a b) fs (Cols.const.constL [] fs)).2.1).flatten = []
  | [] => rfl
  | c :: cs => by
    rw [Cols.const.constL, Cols.apply2.apply2L]
    split
    · exact List.flatten_append.trans (List.append_eq_nil_iff.mpr ⟨swap_out_nil a b c, flat_const_nil.go cs⟩)
    · exact List.flatten_append.trans (List.append_eq_nil_iff.mpr ⟨swap_out_nil a b c, go cs⟩)

theorem swap_conserve (c : Cols) (a b : Nat) : (c.apply2 (swapOp a b) (Model.noArgs c)).st.flat.Perm c.flat := by
  have h := apply2_conserve (swapOp a b) (swap_linear a b) c (c.const [])
  rwa [swap_out_nil a b c, flat_const_nil, List.append_nil, List.append_nil] at h

end Soa

namespace Soa.Lp
open Soa.Model

theorem set_perm (id : Nat) : ∀ (xs : List Nat) (pos old : Nat), xs[pos]? = some old → (xs.set pos id ++ [old]).Perm (xs ++ [id])
  | x :: xs, 0, old, h => by
    cases (Option.some.inj h : x = old)
    exact (List.perm_append_comm (l₁ := id :: xs) (l₂ := [x])).trans (.cons x (List.perm_append_comm (l₁ := [id])))
  | x :: xs, pos + 1, old, h => .cons x (set_perm id xs pos old h)

/-- overwriting one position of one of several arrays (number `k` of them, `j + k` in the numbering from `j`)
    exchanges one value -/
theorem zipIdx_set_perm (pos id : Nat) : ∀ (ls : List (List Nat)) (j k old : Nat), (ls.getD k [])[pos]? = some old →
    (((ls.zipIdx j).map fun p => if p.2 = j + k then p.1.set pos id else p.1).flatten ++ [old]).Perm (ls.flatten ++ [id])
  | l :: ls, j, 0, old, h => by
    -- this array is the one written; the later ones have larger numbers
    have out : (ls.zipIdx (j + 1)).map (fun p => if p.2 = j + 0 then p.1.set pos id else p.1) = ls :=
      (List.map_congr_left fun p hp => if_neg (Nat.ne_of_gt (List.mem_zipIdx hp).1)).trans (List.zipIdx_map_fst _ ls)
    rw [List.zipIdx_cons, List.map_cons, out, if_pos (Nat.add_zero j).symm, List.flatten_cons, List.flatten_cons]
    exact (perm_mid _ _ _).trans (((set_perm id l pos old h).append_right _).trans (perm_mid _ _ _))
  | l :: ls, j, k + 1, old, h => by
    rw [List.zipIdx_cons, List.map_cons, if_neg (Nat.ne_of_lt (Nat.lt_add_of_pos_right (Nat.succ_pos k))), List.flatten_cons,
      List.flatten_cons, List.append_assoc, List.append_assoc, ← Nat.add_assoc, Nat.add_right_comm j k 1]
    exact (zipIdx_set_perm pos id ls (j + 1) k old h).append_left l

theorem writeLeaf_conserve (c : Cols) (leaf pos id : Nat) : ∃ dk,
    (writeLeaf c leaf pos id).2.1 = { drops := dk } ∧
    ((writeLeaf c leaf pos id).1.flat ++ dk).Perm (c.flat ++ (writeLeaf c leaf pos id).2.2) := by
  unfold writeLeaf
  split
  · next old hold =>
    have h := zipIdx_set_perm pos id c.leaves 0 leaf old hold
    rw [Nat.zero_add, ← (setLeaf_leaves leaf pos id c 0).1] at h
    exact ⟨[old], rfl, h⟩
  · exact ⟨[], rfl, by simp⟩

/-- from one state of the `retain` loop (container, events, values the callback created) to a later one nothing is lost
    or duplicated: values move inside the container, are created by the callback (`mk`), or are destroyed as field
    values, without a struct destructor (`dk`) -/
def Exchange (c : Cols) (ev : Ev) (made : List Nat) (c' : Cols) (ev' : Ev) (made' : List Nat) : Prop :=
  ∃ mk dk, made' = made ++ mk ∧ ev' = ev ++ { drops := dk } ∧ (c'.flat ++ dk).Perm (c.flat ++ mk)

theorem Exchange.of_perm {c c' : Cols} (ev : Ev) (made : List Nat) (h : c'.flat.Perm c.flat) : Exchange c ev made c' ev made :=
  ⟨[], [], by simp, by simp, by simpa using h⟩

theorem Exchange.trans {c c1 c2 : Cols} {ev ev1 ev2 : Ev} {made made1 made2 : List Nat}
    (h1 : Exchange c ev made c1 ev1 made1) (h2 : Exchange c1 ev1 made1 c2 ev2 made2) : Exchange c ev made c2 ev2 made2 := by
  obtain ⟨mk, dk, rfl, rfl, hp⟩ := h1
  obtain ⟨mk2, dk2, rfl, rfl, hp2⟩ := h2
  refine ⟨mk ++ mk2, dk ++ dk2, by rw [List.append_assoc], by rw [Ev.append_assoc]; rfl, ?_⟩
  -- c2 ++ (dk ++ dk2) ~ c2 ++ dk2 ++ dk ~ c1 ++ mk2 ++ dk ~ c1 ++ dk ++ mk2 ~ c ++ mk ++ mk2
  rw [← List.append_assoc c.flat]
  exact (perm_mid' _ _ _).trans ((hp2.append_right dk).trans ((perm_mid _ _ _).trans (hp.append_right mk2)))

theorem touched_conserve (touch : Nat → Nat → Option (Nat × Nat)) (c : Cols) (ev : Ev) (made : List Nat) (i : Nat) :
    Exchange c ev made (touched touch c ev made i).1 (touched touch c ev made i).2.1 (touched touch c ev made i).2.2 := by
  unfold touched
  split
  · next l id _ =>
    obtain ⟨dk, h1, h2⟩ := writeLeaf_conserve c l i id
    exact ⟨_, dk, rfl, congrArg (ev ++ ·) h1, h2⟩
  · exact .of_perm ev made (.refl _)

/-- **the `retain` / `retain_mut` loop conserves ownership** on every tree, for every sequence of
    answers, every panicking call and every write of the callback: it destroys nothing but overwritten field values
    (no struct destructor runs), and container + destroyed = held + created -/
theorem retainLoop_conserve (keep : Nat → Bool) (boom : Option Nat) (touch : Nat → Nat → Option (Nat × Nat)) :
    ∀ (fuel i del : Nat) (c : Cols) (vis : List (List Nat)) (ev : Ev) (made : List Nat),
      let r := Model.retainLoop keep boom touch fuel i del c vis ev made
      Exchange c ev made r.c r.ev r.made
  | 0, i, del, c, vis, ev, made => .of_perm ev made (.refl _)
  | fuel + 1, i, del, c, vis, ev, made => by
    have ht := touched_conserve touch c ev made i
    rw [retainLoop_succ]
    -- after the callback's write the loop goes on, once the swap has moved values inside the container
    by_cases hb : boom = some i
    · rw [if_pos hb]; exact ht
    · rw [if_neg hb]
      by_cases hk : (!keep i) = true
      · rw [if_pos hk]; exact ht.trans (retainLoop_conserve keep boom touch fuel _ _ _ _ _ _)
      · rw [if_neg hk]
        by_cases hd : del > 0
        · rw [if_pos hd]
          exact ht.trans ((Exchange.of_perm _ _ (swap_conserve _ _ _)).trans (retainLoop_conserve keep boom touch fuel _ _ _ _ _ _))
        · rw [if_neg hd]; exact ht.trans (retainLoop_conserve keep boom touch fuel _ _ _ _ _ _)

/-- **`retain` / `retain_mut` in closed form** when the callback does not panic: the written elements it accepted are
    left, in order; the ones it rejected are destroyed as whole struct values; it was shown every element once, in order,
    before its write; apart from that only overwritten field values are destroyed -/
theorem retain_eq (keep : Nat → Bool) (touch : Nat → Nat → Option (Nat × Nat)) (n : Nat) (dr : Bool) (c : Cols)
    (hc : c.lock n) : ∃ st junk ds mk,
    Model.retain dr c keep none touch =
      { st := st, vis := c.rows.map Elem.ids, ev := { drops := ds } ++ dropRows dr junk, made := mk } ∧
    st.rows = RetainIdx.filterIdx keep 0 (RetainIdx.updFrom (updOf touch) 0 c.rows) ∧
    junk.Perm (RetainIdx.filterIdx (fun i => !keep i) 0 (RetainIdx.updFrom (updOf touch) 0 c.rows)) ∧
    st.lock (n - junk.length) ∧ c.same st := by
  -- the loop's result against the loop on the rows
  obtain ⟨hrows, hdel, hboom, hvis, hlock, hsame, _⟩ := retainLoop_sim keep none touch n n 0 0 c [] [] {} [] hc (Nat.zero_add n)
  obtain ⟨junk, hF, hJ, hFl⟩ := RetainIdx.loopB_spec keep (updOf touch) c.rows
  obtain ⟨mk, ds, hM, hE, _⟩ := retainLoop_conserve keep none touch n 0 0 c [] {} []
  rw [rows_len n c hc] at hF hFl
  rw [hF] at hrows hdel hboom hvis
  replace hFl := Nat.eq_sub_of_add_eq hFl
  rw [Model.retain, firstLen_lock c n hc]
  simp only [hboom, hdel, hvis rfl, hE, hM, Bool.false_eq_true, ↓reduceIte, List.nil_append, Ev.empty_append]
  rcases Nat.eq_zero_or_pos junk.length with h0 | hd
  · cases List.eq_nil_of_length_eq_zero h0
    exact ⟨_, [], ds, mk, by simp [dropRows], by simpa using hrows, hJ, hlock, hsame⟩
  · -- the pop loop takes the rejected elements, which the swaps have gathered behind the kept ones, off again
    obtain ⟨st, ht, h1, h2, h3⟩ := truncate_eq dr (n - junk.length) n _ hlock
    rw [hrows, List.drop_left' hFl] at ht
    rw [hrows, List.take_left' hFl] at h1
    rw [Nat.min_eq_right (Nat.sub_le _ _)] at h2
    exact ⟨st, junk.reverse, ds, mk, by rw [if_pos hd, ht], h1, (List.reverse_perm _).trans hJ,
      by rwa [List.length_reverse], same_trans _ _ _ hsame h3⟩

end Soa.Lp
