import Soa.Model.Basic
/-!
# Lockstep read off the leaves, `same` as an equivalence, and the failing branch of the
transposition theorem (`apply2_fail`: the first field panics, nothing changed; `apply2_panicked`: under
lockstep every panic is of that kind).
-/
namespace Soa

theorem leaves_ne_nil : ∀ (c : Cols) (n : Nat), c.lock n → c.leaves ≠ []
  | .leaf _, _, _ => nofun
  | .nest [], _, h => absurd rfl (lock_nest.mp h).1
  | .nest (c :: _), n, h => fun e => leaves_ne_nil c n ((lock_nest.mp h).2 c (.head _)) (List.append_eq_nil_iff.mp e).1

theorem leaves_lock (n : Nat) : ∀ (c : Cols), c.lock n → ∀ l ∈ c.leaves, l.length = n
  | .leaf _, h => List.forall_mem_singleton.mpr (lock_leaf.mp h)
  | .nest fs, h => go fs (lock_nest.mp h).2
where go : ∀ fs : List Cols, (∀ c ∈ fs, c.lock n) → ∀ l ∈ Cols.leaves.leavesL fs, l.length = n
  | [], _ => nofun
  | c :: cs, h => List.forall_mem_append.mpr ⟨leaves_lock n c (h c (.head _)), go cs fun x hx => h x (.tail _ hx)⟩

theorem firstLen_lock (c : Cols) (n : Nat) (h : c.lock n) : c.firstLen = n := by
  unfold Cols.firstLen
  cases hl : c.leaves with
  | nil => exact absurd hl (leaves_ne_nil c n h)
  | cons l ls => exact leaves_lock n c h l (hl ▸ .head _)

theorem lock_noArgs (c : Cols) (n : Nat) (h : c.lock n) : (c.const []).lock 0 :=
  lock_const [] c ⟨n, h⟩

theorem rows_const_nil : ∀ c : Cols, (c.const []).rows = []
  | .leaf _ => rfl
  | .nest fs => congrArg (List.map Elem.nest) (go fs)
where go : ∀ fs : List Cols, Cols.rows.rowsL (Cols.const.constL [] fs) = []
  | [] => rfl
  | [c] => by rw [Cols.const.constL, Cols.const.constL, Cols.rows.rowsL, rows_const_nil c]; rfl
  | c :: c' :: cs => by rw [Cols.const.constL, Cols.const.constL, Cols.rows.rowsL, rows_const_nil c]; rfl

theorem same_refl : ∀ c : Cols, c.same c
  | .leaf _ => trivial
  | .nest fs => go fs
where go : ∀ fs : List Cols, Cols.same.sameL fs fs
  | [] => trivial
  | c :: cs => ⟨same_refl c, go cs⟩

theorem same_symm : ∀ c d : Cols, c.same d → d.same c
  | .leaf _, .leaf _, _ => trivial
  | .nest fs, .nest gs, h => go fs gs h
where go : ∀ fs gs : List Cols, Cols.same.sameL fs gs → Cols.same.sameL gs fs
  | [], [], _ => trivial
  | c :: cs, d :: ds, h => ⟨same_symm c d h.1, go cs ds h.2⟩

theorem same_trans : ∀ c d e : Cols, c.same d → d.same e → c.same e
  | .leaf _, .leaf _, .leaf _, _, _ => trivial
  | .nest fs, .nest gs, .nest hs, h1, h2 => go fs gs hs h1 h2
where go : ∀ fs gs hs : List Cols, Cols.same.sameL fs gs → Cols.same.sameL gs hs → Cols.same.sameL fs hs
  | [], [], [], _, _ => trivial
  | c :: cs, d :: ds, e :: es, h1, h2 => ⟨same_trans c d e h1.1 h2.1, go cs ds es h1.2 h2.2⟩

theorem apply2_fail (op : PolyOp) (n k : Nat) (hf : op.fails n k = true) :
    ∀ c a : Cols, c.lock n → a.lock k → c.same a →
      (c.apply2 op a).panicked = true ∧ (c.apply2 op a).st = c ∧ (c.apply2 op a).out = a
  | .leaf xs, .leaf as, hc, ha, _ => by
    rw [Cols.apply2, op.run_none hf xs as (lock_leaf.mp hc) (lock_leaf.mp ha)]
    exact ⟨rfl, rfl, rfl⟩
  | .nest [], _, hc, _, _ => absurd rfl (lock_nest.mp hc).1
  | .nest (c :: cs), .nest (a :: as), hc, ha, hs => by
    obtain ⟨h1, h2, h3⟩ := apply2_fail op n k hf c a ((lock_nest.mp hc).2 c (.head _)) ((lock_nest.mp ha).2 a (.head _)) hs.1
    rw [Cols.apply2, Cols.apply2.apply2L, h1, h2, h3]
    exact ⟨rfl, rfl, rfl⟩

/-- under lockstep a per-field application panics only in the first field, before anything moved -/
theorem apply2_panicked {op : PolyOp} {c a : Cols} {n k : Nat} (hc : c.lock n) (ha : a.lock k) (hs : c.same a)
    (hp : (c.apply2 op a).panicked = true) : (c.apply2 op a).st = c ∧ (c.apply2 op a).out = a := by
  cases hf : op.fails n k with
  | false => rw [(apply2_ok op n k hf c a hc ha hs).1] at hp; cases hp
  | true => exact (apply2_fail op n k hf c a hc ha hs).2

end Soa
