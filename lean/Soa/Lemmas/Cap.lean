import Soa.Model.Cap
/-! `capacity()` is the smallest field capacity: the `min` fold of `Soa/Model/Cap.lean`, characterised. -/
namespace Soa.Cap

theorem le_foldl_min {α : Type} (f : α → Nat) (m : Nat) : ∀ (l : List α) (a : Nat),
    m ≤ l.foldl (fun a x => min a (f x)) a ↔ m ≤ a ∧ ∀ x ∈ l, m ≤ f x
  | [], _ => ⟨fun h => ⟨h, nofun⟩, fun h => h.1⟩
  | x :: xs, a => by rw [List.foldl_cons, le_foldl_min f m xs, List.forall_mem_cons, Nat.le_min, and_assoc]

theorem le_capacity (s : St) (hne : s.caps ≠ []) (m : Nat) : m ≤ s.capacity ↔ ∀ p ∈ s.caps, m ≤ p.2 := by
  unfold St.capacity
  cases h : s.caps with
  | nil => exact absurd h hne
  | cons p ps => rw [List.forall_mem_cons]; exact le_foldl_min (·.2) m ps p.2

end Soa.Cap
