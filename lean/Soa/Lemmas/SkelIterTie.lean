import Soa.Model.SkelIter
import Soa.Lemmas.SkelRead.C06
import Soa.Lemmas.SkelViewTie
/-!
# Iterators: the extracted zip chains step every field alike

On a view whose fields all cover the window `w`, the iterator built by the extracted
`iter` / `iter_mut` / `into_iter` has one component per leaf over `w`; the extracted `next` /
`next_back` yield the position `View.next` / `View.nextBack` yields, in every field, and leave
every component with the same remaining window; `len` / `size_hint` report the number of
positions not yet yielded.  For every well-formed shape.
-/
namespace Soa.Sk
open View Soa.Extracted

theorem flat'_uniform (a : LV) : ∀ sh : Shape, sh.wf →
    (∀ v ∈ zipLen.VT.flat' (VT.uniform a sh), v = a) ∧ zipLen.VT.flat' (VT.uniform a sh) ≠ []
  | .leaf _, _ => ⟨fun _ hv => List.eq_of_mem_singleton hv, nofun⟩
  | .nest fs, h => by
    rw [Shape.wf_nest] at h
    refine ⟨go fs h.2, ?_⟩
    cases fs with
    | nil => exact absurd rfl h.1
    | cons f fs => exact fun hh => (flat'_uniform a f (h.2 f (List.mem_cons_self ..))).2 (List.append_eq_nil_iff.mp hh).1
where go : ∀ fs : List Shape, (∀ f ∈ fs, f.wf) → ∀ v ∈ zipLen.flatL' (VT.uniform.uniformL a fs), v = a
  | [], _ => nofun
  | f :: fs, h => by
    rw [List.forall_mem_cons] at h
    exact List.forall_mem_append.mpr ⟨(flat'_uniform a f h.1).1, go fs h.2⟩

theorem flat'_replicate (a : LV) (sh : Shape) (hw : sh.wf) :
    ∃ n, zipLen.VT.flat' (VT.uniform a sh) = List.replicate (n + 1) a := by
  obtain ⟨hall, hne⟩ := flat'_uniform a sh hw
  exact ⟨_, List.eq_replicate_iff.mpr ⟨(Nat.succ_pred_eq_of_pos (List.length_pos_iff.mpr hne)).symm, hall⟩⟩

theorem foldl_min_replicate (x : Nat) : ∀ n, (List.replicate n x).foldl min x = x
  | 0 => rfl
  | n + 1 => by rw [List.replicate_succ, List.foldl_cons, Nat.min_self, foldl_min_replicate x n]

theorem zipLen_uniform (w : Win) (sh : Shape) (hw : sh.wf) : zipLen (VT.uniform (.win w) sh) = w.l := by
  obtain ⟨n, h⟩ := flat'_replicate (.win w) sh hw
  simp only [zipLen, h, List.replicate_succ, List.map_replicate]
  exact foldl_min_replicate w.l n

section uniform
variable (sh : Shape) (hw : sh.wf)
include hw

theorem runIterNew_uniform {f : Fn} {ty : Ty} {m : String} {w : Win} (hr : skOf f = .zipNew ty (.call m [] .none) (.call f.name [] .none))
    (hc : (ty == .iter && m == "iter" || ty == .iterMut && m == "iter_mut") = true) :
    runIterNew f (VT.uniform (.win w) sh) = .ok (VT.uniform (.win w) sh) := by
  simp only [Bool.or_eq_true, Bool.and_eq_true, beq_iff_eq] at hc
  rw [runIterNew, hr]
  simp only [beq_iff_eq, hc, and_self, if_true, mapR_uniform _ _ _ hw]
  rfl

/-- every way of creating an iterator from a view: one component per leaf, over the view's window -/
theorem iter_new_tie (w : Win) :
    runIterNew sk_PSlice_a_iter (VT.uniform (.win w) sh) = .ok (VT.uniform (.win w) sh) ∧
    runIterNew sk_PSlice_a_into_iter (VT.uniform (.win w) sh) = .ok (VT.uniform (.win w) sh) ∧
    runIterNew sk_PSlice_a_IntoIterator_into_iter (VT.uniform (.win w) sh) = .ok (VT.uniform (.win w) sh) ∧
    runIterNew sk_aPSlice_b_IntoIterator_into_iter (VT.uniform (.win w) sh) = .ok (VT.uniform (.win w) sh) ∧
    runIterNew sk_PSliceMut_a_iter_mut (VT.uniform (.win w) sh) = .ok (VT.uniform (.win w) sh) ∧
    runIterNew sk_PSliceMut_a_into_iter (VT.uniform (.win w) sh) = .ok (VT.uniform (.win w) sh) ∧
    runIterNew sk_PSliceMut_a_IntoIterator_into_iter (VT.uniform (.win w) sh) = .ok (VT.uniform (.win w) sh) :=
  ⟨runIterNew_uniform sh hw read_PSlice_a_iter rfl,
    runIterNew_uniform sh hw read_PSlice_a_into_iter rfl,
    runIterNew_uniform sh hw read_PSlice_a_IntoIterator_into_iter rfl,
    runIterNew_uniform sh hw read_aPSlice_b_IntoIterator_into_iter rfl,
    runIterNew_uniform sh hw read_PSliceMut_a_iter_mut rfl,
    runIterNew_uniform sh hw read_PSliceMut_a_into_iter rfl,
    runIterNew_uniform sh hw read_PSliceMut_a_IntoIterator_into_iter rfl⟩

theorem runIterStep_uniform {f : Fn} {ty : Ty} (hr : skOf f = .zipStep f.name ty)
    (hc : ((ty == .ref || ty == .refMut) && (f.name == "next" || f.name == "next_back")) = true) (w : Win) :
    runIterStep f (VT.uniform (.win w) sh) =
      .ok (((if f.name == "next_back" then View.nextBack w else View.next w).1.map fun p => VT.uniform (.pos p) sh),
        VT.uniform (.win (if f.name == "next_back" then View.nextBack w else View.next w).2) sh) := by
  simp only [Bool.or_eq_true, Bool.and_eq_true, beq_iff_eq] at hc
  rw [runIterStep, hr]
  simp only [beq_iff_eq, hc, and_self, if_true, zipLen_uniform w sh hw, mapR_uniform _ _ _ hw, R.map, R.bind, View.next, View.nextBack]
  by_cases h0 : w.l = 0 <;> by_cases hb : f.name = "next_back" <;> simp [h0, hb]

/-- `next()` of both iterator types is `View.next` in every field -/
theorem next_tie (w : Win) :
    runIterStep sk_PIter_a_Iterator_next (VT.uniform (.win w) sh) =
      .ok ((View.next w).1.map (fun p => VT.uniform (.pos p) sh), VT.uniform (.win (View.next w).2) sh) ∧
    runIterStep sk_PIterMut_a_Iterator_next (VT.uniform (.win w) sh) =
      .ok ((View.next w).1.map (fun p => VT.uniform (.pos p) sh), VT.uniform (.win (View.next w).2) sh) :=
  ⟨runIterStep_uniform sh hw read_PIter_a_Iterator_next rfl w,
    runIterStep_uniform sh hw read_PIterMut_a_Iterator_next rfl w⟩

/-- `next_back()` of both iterator types is `View.nextBack` in every field -/
theorem next_back_tie (w : Win) :
    runIterStep sk_PIter_a_DoubleEndedIterator_next_back (VT.uniform (.win w) sh) =
      .ok ((View.nextBack w).1.map (fun p => VT.uniform (.pos p) sh), VT.uniform (.win (View.nextBack w).2) sh) ∧
    runIterStep sk_PIterMut_a_DoubleEndedIterator_next_back (VT.uniform (.win w) sh) =
      .ok ((View.nextBack w).1.map (fun p => VT.uniform (.pos p) sh), VT.uniform (.win (View.nextBack w).2) sh) :=
  ⟨runIterStep_uniform sh hw read_PIter_a_DoubleEndedIterator_next_back rfl w,
    runIterStep_uniform sh hw read_PIterMut_a_DoubleEndedIterator_next_back rfl w⟩

/-- `len()` and `size_hint()` of both iterator types: the positions not yet yielded -/
theorem iter_len_tie (w : Win) :
    runIterLen sk_PIter_a_ExactSizeIterator_len (VT.uniform (.win w) sh) = some w.l ∧
    runIterLen sk_PIter_a_Iterator_size_hint (VT.uniform (.win w) sh) = some w.l ∧
    runIterLen sk_PIterMut_a_ExactSizeIterator_len (VT.uniform (.win w) sh) = some w.l ∧
    runIterLen sk_PIterMut_a_Iterator_size_hint (VT.uniform (.win w) sh) = some w.l := by
  have len {f : Fn} (h : isIterLen f = true) : runIterLen f (VT.uniform (.win w) sh) = some w.l := by
    rw [runIterLen, if_pos h, zipLen_uniform w sh hw]
  exact ⟨len rfl, len rfl, len rfl, len rfl⟩

end uniform

/-- the vector's and the mutable view's iterator entry points delegate to the view's -/
theorem delegations :
    isDelegation sk_PVec_iter "as_slice" "into_iter" = true ∧
    isDelegation sk_PVec_iter_mut "as_mut_slice" "into_iter" = true ∧
    isDelegation sk_aPVec_IntoIterator_into_iter "as_slice" "into_iter" = true ∧
    isDelegation sk_amutPVec_IntoIterator_into_iter "as_mut_slice" "into_iter" = true ∧
    isDelegation sk_PSliceMut_a_iter "as_ref" "into_iter" = true := by decide +kernel

/-- **composition**: `vec.iter()` / `for x in &vec` are `self.as_slice().into_iter()`, `vec.iter_mut()` / `for x in &mut vec`
    are `self.as_mut_slice().into_iter()` (`delegations`): running the two extracted functions one after the other on a
    vector whose field arrays all have length `n` gives an iterator with one component per leaf over the whole array -/
theorem vec_iter_composed (sh : Shape) (hw : sh.wf) (n : Nat) :
    (match runView sk_PVec_as_slice (VT.uniform (.len n) sh) [] with
     | .ok (.one s) => runIterNew sk_PSlice_a_into_iter s
     | _ => .stuck) = .ok (VT.uniform (.win ⟨0, n⟩) sh) ∧
    (match runView sk_PVec_as_mut_slice (VT.uniform (.len n) sh) [] with
     | .ok (.one s) => runIterNew sk_PSliceMut_a_into_iter s
     | _ => .stuck) = .ok (VT.uniform (.win ⟨0, n⟩) sh) := by
  obtain ⟨-, hs, -, -, -, hm, -⟩ := iter_new_tie sh hw ⟨0, n⟩
  rw [as_slice_tie sh hw, as_mut_slice_tie sh hw]
  exact ⟨hs, hm⟩

end Soa.Sk
