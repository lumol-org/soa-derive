import Soa.Lemmas.SkelRead.Row
import Soa.Model.SkelExpected
import Soa.Extracted.Skel
/-!
# The templates extracted on this run read as the expected skeletons — functions in the scope of C01

Decided by the kernel on the regenerated table `Soa/Extracted/Skel.lean`, the whole scope in one evaluation (`Sk.row` says why);
`read_X` is its row for the function `X`. Generated by `bin/reskel`.
-/
namespace Soa.Sk
open Soa.Extracted Soa.Sk.Expected

theorem reads_C01 : ∀ r ∈ [
    (sk_PVec_push, exp_PVec_push),
    (sk_PVec_len, exp_PVec_len),
    (sk_PVec_is_empty, exp_PVec_is_empty),
    (sk_PVec_swap_remove, exp_PVec_swap_remove),
    (sk_PVec_insert, exp_PVec_insert),
    (sk_PVec_replace, exp_PVec_replace),
    (sk_PVec_remove, exp_PVec_remove),
    (sk_PVec_pop, exp_PVec_pop),
    (sk_PVec_append, exp_PVec_append),
    (sk_PVec_split_off, exp_PVec_split_off),
    (sk_PSlice_a_to_vec, exp_PSlice_a_to_vec),
    (sk_PSliceMut_a_to_vec, exp_PSliceMut_a_to_vec)],
    skOf r.1 = r.2 := by decide +kernel

theorem read_PVec_push : skOf sk_PVec_push = exp_PVec_push := row reads_C01 0 rfl
theorem read_PVec_len : skOf sk_PVec_len = exp_PVec_len := row reads_C01 1 rfl
theorem read_PVec_is_empty : skOf sk_PVec_is_empty = exp_PVec_is_empty := row reads_C01 2 rfl
theorem read_PVec_swap_remove : skOf sk_PVec_swap_remove = exp_PVec_swap_remove := row reads_C01 3 rfl
theorem read_PVec_insert : skOf sk_PVec_insert = exp_PVec_insert := row reads_C01 4 rfl
theorem read_PVec_replace : skOf sk_PVec_replace = exp_PVec_replace := row reads_C01 5 rfl
theorem read_PVec_remove : skOf sk_PVec_remove = exp_PVec_remove := row reads_C01 6 rfl
theorem read_PVec_pop : skOf sk_PVec_pop = exp_PVec_pop := row reads_C01 7 rfl
theorem read_PVec_append : skOf sk_PVec_append = exp_PVec_append := row reads_C01 8 rfl
theorem read_PVec_split_off : skOf sk_PVec_split_off = exp_PVec_split_off := row reads_C01 9 rfl
theorem read_PSlice_a_to_vec : skOf sk_PSlice_a_to_vec = exp_PSlice_a_to_vec := row reads_C01 10 rfl
theorem read_PSliceMut_a_to_vec : skOf sk_PSliceMut_a_to_vec = exp_PSliceMut_a_to_vec := row reads_C01 11 rfl

end Soa.Sk
