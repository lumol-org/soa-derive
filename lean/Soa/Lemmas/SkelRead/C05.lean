import Soa.Lemmas.SkelRead.Row
import Soa.Model.SkelExpected
import Soa.Extracted.Skel
/-!
# The templates extracted on this run read as the expected skeletons — functions in the scope of C05

Decided by the kernel on the regenerated table `Soa/Extracted/Skel.lean`, the whole scope in one evaluation (`Sk.row` says why);
`read_X` is its row for the function `X`. Generated by `bin/reskel`.
-/
namespace Soa.Sk
open Soa.Extracted Soa.Sk.Expected

theorem reads_C05 : ∀ r ∈ [
    (sk_PVec_as_slice, exp_PVec_as_slice),
    (sk_PVec_as_mut_slice, exp_PVec_as_mut_slice),
    (sk_PVec_slice, exp_PVec_slice),
    (sk_PVec_slice_mut, exp_PVec_slice_mut),
    (sk_PSlice_a_len, exp_PSlice_a_len),
    (sk_PSlice_a_is_empty, exp_PSlice_a_is_empty),
    (sk_PSlice_a_first, exp_PSlice_a_first),
    (sk_PSlice_a_split_first, exp_PSlice_a_split_first),
    (sk_PSlice_a_last, exp_PSlice_a_last),
    (sk_PSlice_a_split_last, exp_PSlice_a_split_last),
    (sk_PSlice_a_split_at, exp_PSlice_a_split_at),
    (sk_PSlice_a_reborrow, exp_PSlice_a_reborrow),
    (sk_PSliceMut_a_as_ref, exp_PSliceMut_a_as_ref),
    (sk_PSliceMut_a_len, exp_PSliceMut_a_len),
    (sk_PSliceMut_a_is_empty, exp_PSliceMut_a_is_empty),
    (sk_PSliceMut_a_first_mut, exp_PSliceMut_a_first_mut),
    (sk_PSliceMut_a_split_first_mut, exp_PSliceMut_a_split_first_mut),
    (sk_PSliceMut_a_last_mut, exp_PSliceMut_a_last_mut),
    (sk_PSliceMut_a_split_last_mut, exp_PSliceMut_a_split_last_mut),
    (sk_PSliceMut_a_split_at_mut, exp_PSliceMut_a_split_at_mut),
    (sk_PSliceMut_a_swap, exp_PSliceMut_a_swap),
    (sk_PSliceMut_a_as_slice, exp_PSliceMut_a_as_slice),
    (sk_PSliceMut_a_reborrow, exp_PSliceMut_a_reborrow)],
    skOf r.1 = r.2 := by decide +kernel

theorem read_PVec_as_slice : skOf sk_PVec_as_slice = exp_PVec_as_slice := row reads_C05 0 rfl
theorem read_PVec_as_mut_slice : skOf sk_PVec_as_mut_slice = exp_PVec_as_mut_slice := row reads_C05 1 rfl
theorem read_PVec_slice : skOf sk_PVec_slice = exp_PVec_slice := row reads_C05 2 rfl
theorem read_PVec_slice_mut : skOf sk_PVec_slice_mut = exp_PVec_slice_mut := row reads_C05 3 rfl
theorem read_PSlice_a_len : skOf sk_PSlice_a_len = exp_PSlice_a_len := row reads_C05 4 rfl
theorem read_PSlice_a_is_empty : skOf sk_PSlice_a_is_empty = exp_PSlice_a_is_empty := row reads_C05 5 rfl
theorem read_PSlice_a_first : skOf sk_PSlice_a_first = exp_PSlice_a_first := row reads_C05 6 rfl
theorem read_PSlice_a_split_first : skOf sk_PSlice_a_split_first = exp_PSlice_a_split_first := row reads_C05 7 rfl
theorem read_PSlice_a_last : skOf sk_PSlice_a_last = exp_PSlice_a_last := row reads_C05 8 rfl
theorem read_PSlice_a_split_last : skOf sk_PSlice_a_split_last = exp_PSlice_a_split_last := row reads_C05 9 rfl
theorem read_PSlice_a_split_at : skOf sk_PSlice_a_split_at = exp_PSlice_a_split_at := row reads_C05 10 rfl
theorem read_PSlice_a_reborrow : skOf sk_PSlice_a_reborrow = exp_PSlice_a_reborrow := row reads_C05 11 rfl
theorem read_PSliceMut_a_as_ref : skOf sk_PSliceMut_a_as_ref = exp_PSliceMut_a_as_ref := row reads_C05 12 rfl
theorem read_PSliceMut_a_len : skOf sk_PSliceMut_a_len = exp_PSliceMut_a_len := row reads_C05 13 rfl
theorem read_PSliceMut_a_is_empty : skOf sk_PSliceMut_a_is_empty = exp_PSliceMut_a_is_empty := row reads_C05 14 rfl
theorem read_PSliceMut_a_first_mut : skOf sk_PSliceMut_a_first_mut = exp_PSliceMut_a_first_mut := row reads_C05 15 rfl
theorem read_PSliceMut_a_split_first_mut : skOf sk_PSliceMut_a_split_first_mut = exp_PSliceMut_a_split_first_mut := row reads_C05 16 rfl
theorem read_PSliceMut_a_last_mut : skOf sk_PSliceMut_a_last_mut = exp_PSliceMut_a_last_mut := row reads_C05 17 rfl
theorem read_PSliceMut_a_split_last_mut : skOf sk_PSliceMut_a_split_last_mut = exp_PSliceMut_a_split_last_mut := row reads_C05 18 rfl
theorem read_PSliceMut_a_split_at_mut : skOf sk_PSliceMut_a_split_at_mut = exp_PSliceMut_a_split_at_mut := row reads_C05 19 rfl
theorem read_PSliceMut_a_swap : skOf sk_PSliceMut_a_swap = exp_PSliceMut_a_swap := row reads_C05 20 rfl
theorem read_PSliceMut_a_as_slice : skOf sk_PSliceMut_a_as_slice = exp_PSliceMut_a_as_slice := row reads_C05 21 rfl
theorem read_PSliceMut_a_reborrow : skOf sk_PSliceMut_a_reborrow = exp_PSliceMut_a_reborrow := row reads_C05 22 rfl

end Soa.Sk
