import Soa.Model.Skel
namespace Soa.Sk

/-- Row `i` of a table of readings.  The readings of one property scope are decided as one table: the kernel unfolds
    the string literals the parser compares once per declaration, and that is most of the work (twelve rows decided
    together cost a third of the same rows one by one). -/
theorem row {t : List (Fn × Sk)} (h : ∀ r ∈ t, skOf r.1 = r.2) (i : Nat) {f : Fn} {e : Sk}
    (hi : t[i]? = some (f, e)) : skOf f = e :=
  h _ (List.mem_of_getElem? hi)

end Soa.Sk
