import Soa.Lemmas.SkelRead.Row
import Soa.Model.SkelExpected
import Soa.Extracted.Skel
/-!
# The templates extracted on this run read as the expected skeletons — functions in the scope of C12

Decided by the kernel on the regenerated table `Soa/Extracted/Skel.lean`, the whole scope in one evaluation (`Sk.row` says why);
`read_X` is its row for the function `X`. Generated by `bin/reskel`.
-/
namespace Soa.Sk
open Soa.Extracted Soa.Sk.Expected

theorem reads_C12 : ∀ r ∈ [
    (sk_PVec_with_capacity, exp_PVec_with_capacity),
    (sk_PVec_capacity, exp_PVec_capacity),
    (sk_PVec_reserve, exp_PVec_reserve),
    (sk_PVec_reserve_exact, exp_PVec_reserve_exact),
    (sk_PVec_shrink_to_fit, exp_PVec_shrink_to_fit)],
    skOf r.1 = r.2 := by decide +kernel

theorem read_PVec_with_capacity : skOf sk_PVec_with_capacity = exp_PVec_with_capacity := row reads_C12 0 rfl
theorem read_PVec_capacity : skOf sk_PVec_capacity = exp_PVec_capacity := row reads_C12 1 rfl
theorem read_PVec_reserve : skOf sk_PVec_reserve = exp_PVec_reserve := row reads_C12 2 rfl
theorem read_PVec_reserve_exact : skOf sk_PVec_reserve_exact = exp_PVec_reserve_exact := row reads_C12 3 rfl
theorem read_PVec_shrink_to_fit : skOf sk_PVec_shrink_to_fit = exp_PVec_shrink_to_fit := row reads_C12 4 rfl

end Soa.Sk
