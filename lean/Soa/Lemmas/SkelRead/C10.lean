import Soa.Lemmas.SkelRead.Row
import Soa.Model.SkelExpected
import Soa.Extracted.Skel
/-!
# The templates extracted on this run read as the expected skeletons — functions in the scope of C10

Decided by the kernel on the regenerated table `Soa/Extracted/Skel.lean`, the whole scope in one evaluation (`Sk.row` says why);
`read_X` is its row for the function `X`. Generated by `bin/reskel`.
-/
namespace Soa.Sk
open Soa.Extracted Soa.Sk.Expected

theorem reads_C10 : ∀ r ∈ [
    (sk_PVec_as_ptr, exp_PVec_as_ptr),
    (sk_PVec_as_mut_ptr, exp_PVec_as_mut_ptr),
    (sk_PVec_from_raw_parts, exp_PVec_from_raw_parts),
    (sk_PPtr_as_mut_ptr, exp_PPtr_as_mut_ptr),
    (sk_PPtr_is_null, exp_PPtr_is_null),
    (sk_PPtr_as_ref, exp_PPtr_as_ref),
    (sk_PPtr_offset, exp_PPtr_offset),
    (sk_PPtr_wrapping_offset, exp_PPtr_wrapping_offset),
    (sk_PPtr_add, exp_PPtr_add),
    (sk_PPtr_sub, exp_PPtr_sub),
    (sk_PPtr_wrapping_add, exp_PPtr_wrapping_add),
    (sk_PPtr_wrapping_sub, exp_PPtr_wrapping_sub),
    (sk_PPtr_read, exp_PPtr_read),
    (sk_PPtr_read_volatile, exp_PPtr_read_volatile),
    (sk_PPtr_read_unaligned, exp_PPtr_read_unaligned),
    (sk_PPtrMut_as_ptr, exp_PPtrMut_as_ptr),
    (sk_PPtrMut_is_null, exp_PPtrMut_is_null),
    (sk_PPtrMut_as_ref, exp_PPtrMut_as_ref),
    (sk_PPtrMut_as_mut, exp_PPtrMut_as_mut),
    (sk_PPtrMut_offset, exp_PPtrMut_offset),
    (sk_PPtrMut_wrapping_offset, exp_PPtrMut_wrapping_offset),
    (sk_PPtrMut_add, exp_PPtrMut_add),
    (sk_PPtrMut_sub, exp_PPtrMut_sub),
    (sk_PPtrMut_wrapping_add, exp_PPtrMut_wrapping_add),
    (sk_PPtrMut_wrapping_sub, exp_PPtrMut_wrapping_sub),
    (sk_PPtrMut_read, exp_PPtrMut_read),
    (sk_PPtrMut_read_volatile, exp_PPtrMut_read_volatile),
    (sk_PPtrMut_read_unaligned, exp_PPtrMut_read_unaligned),
    (sk_PPtrMut_write, exp_PPtrMut_write),
    (sk_PPtrMut_write_volatile, exp_PPtrMut_write_volatile),
    (sk_PPtrMut_write_unaligned, exp_PPtrMut_write_unaligned),
    (sk_PRef_a_as_ptr, exp_PRef_a_as_ptr),
    (sk_PRefMut_a_as_ptr, exp_PRefMut_a_as_ptr),
    (sk_PRefMut_a_as_mut_ptr, exp_PRefMut_a_as_mut_ptr),
    (sk_PSlice_a_as_ptr, exp_PSlice_a_as_ptr),
    (sk_PSlice_a_from_raw_parts, exp_PSlice_a_from_raw_parts),
    (sk_PSliceMut_a_as_ptr, exp_PSliceMut_a_as_ptr),
    (sk_PSliceMut_a_as_mut_ptr, exp_PSliceMut_a_as_mut_ptr),
    (sk_PSliceMut_a_from_raw_parts_mut, exp_PSliceMut_a_from_raw_parts_mut)],
    skOf r.1 = r.2 := by decide +kernel

theorem read_PVec_as_ptr : skOf sk_PVec_as_ptr = exp_PVec_as_ptr := row reads_C10 0 rfl
theorem read_PVec_as_mut_ptr : skOf sk_PVec_as_mut_ptr = exp_PVec_as_mut_ptr := row reads_C10 1 rfl
theorem read_PVec_from_raw_parts : skOf sk_PVec_from_raw_parts = exp_PVec_from_raw_parts := row reads_C10 2 rfl
theorem read_PPtr_as_mut_ptr : skOf sk_PPtr_as_mut_ptr = exp_PPtr_as_mut_ptr := row reads_C10 3 rfl
theorem read_PPtr_is_null : skOf sk_PPtr_is_null = exp_PPtr_is_null := row reads_C10 4 rfl
theorem read_PPtr_as_ref : skOf sk_PPtr_as_ref = exp_PPtr_as_ref := row reads_C10 5 rfl
theorem read_PPtr_offset : skOf sk_PPtr_offset = exp_PPtr_offset := row reads_C10 6 rfl
theorem read_PPtr_wrapping_offset : skOf sk_PPtr_wrapping_offset = exp_PPtr_wrapping_offset := row reads_C10 7 rfl
theorem read_PPtr_add : skOf sk_PPtr_add = exp_PPtr_add := row reads_C10 8 rfl
theorem read_PPtr_sub : skOf sk_PPtr_sub = exp_PPtr_sub := row reads_C10 9 rfl
theorem read_PPtr_wrapping_add : skOf sk_PPtr_wrapping_add = exp_PPtr_wrapping_add := row reads_C10 10 rfl
theorem read_PPtr_wrapping_sub : skOf sk_PPtr_wrapping_sub = exp_PPtr_wrapping_sub := row reads_C10 11 rfl
theorem read_PPtr_read : skOf sk_PPtr_read = exp_PPtr_read := row reads_C10 12 rfl
theorem read_PPtr_read_volatile : skOf sk_PPtr_read_volatile = exp_PPtr_read_volatile := row reads_C10 13 rfl
theorem read_PPtr_read_unaligned : skOf sk_PPtr_read_unaligned = exp_PPtr_read_unaligned := row reads_C10 14 rfl
theorem read_PPtrMut_as_ptr : skOf sk_PPtrMut_as_ptr = exp_PPtrMut_as_ptr := row reads_C10 15 rfl
theorem read_PPtrMut_is_null : skOf sk_PPtrMut_is_null = exp_PPtrMut_is_null := row reads_C10 16 rfl
theorem read_PPtrMut_as_ref : skOf sk_PPtrMut_as_ref = exp_PPtrMut_as_ref := row reads_C10 17 rfl
theorem read_PPtrMut_as_mut : skOf sk_PPtrMut_as_mut = exp_PPtrMut_as_mut := row reads_C10 18 rfl
theorem read_PPtrMut_offset : skOf sk_PPtrMut_offset = exp_PPtrMut_offset := row reads_C10 19 rfl
theorem read_PPtrMut_wrapping_offset : skOf sk_PPtrMut_wrapping_offset = exp_PPtrMut_wrapping_offset := row reads_C10 20 rfl
theorem read_PPtrMut_add : skOf sk_PPtrMut_add = exp_PPtrMut_add := row reads_C10 21 rfl
theorem read_PPtrMut_sub : skOf sk_PPtrMut_sub = exp_PPtrMut_sub := row reads_C10 22 rfl
theorem read_PPtrMut_wrapping_add : skOf sk_PPtrMut_wrapping_add = exp_PPtrMut_wrapping_add := row reads_C10 23 rfl
theorem read_PPtrMut_wrapping_sub : skOf sk_PPtrMut_wrapping_sub = exp_PPtrMut_wrapping_sub := row reads_C10 24 rfl
theorem read_PPtrMut_read : skOf sk_PPtrMut_read = exp_PPtrMut_read := row reads_C10 25 rfl
theorem read_PPtrMut_read_volatile : skOf sk_PPtrMut_read_volatile = exp_PPtrMut_read_volatile := row reads_C10 26 rfl
theorem read_PPtrMut_read_unaligned : skOf sk_PPtrMut_read_unaligned = exp_PPtrMut_read_unaligned := row reads_C10 27 rfl
theorem read_PPtrMut_write : skOf sk_PPtrMut_write = exp_PPtrMut_write := row reads_C10 28 rfl
theorem read_PPtrMut_write_volatile : skOf sk_PPtrMut_write_volatile = exp_PPtrMut_write_volatile := row reads_C10 29 rfl
theorem read_PPtrMut_write_unaligned : skOf sk_PPtrMut_write_unaligned = exp_PPtrMut_write_unaligned := row reads_C10 30 rfl
theorem read_PRef_a_as_ptr : skOf sk_PRef_a_as_ptr = exp_PRef_a_as_ptr := row reads_C10 31 rfl
theorem read_PRefMut_a_as_ptr : skOf sk_PRefMut_a_as_ptr = exp_PRefMut_a_as_ptr := row reads_C10 32 rfl
theorem read_PRefMut_a_as_mut_ptr : skOf sk_PRefMut_a_as_mut_ptr = exp_PRefMut_a_as_mut_ptr := row reads_C10 33 rfl
theorem read_PSlice_a_as_ptr : skOf sk_PSlice_a_as_ptr = exp_PSlice_a_as_ptr := row reads_C10 34 rfl
theorem read_PSlice_a_from_raw_parts : skOf sk_PSlice_a_from_raw_parts = exp_PSlice_a_from_raw_parts := row reads_C10 35 rfl
theorem read_PSliceMut_a_as_ptr : skOf sk_PSliceMut_a_as_ptr = exp_PSliceMut_a_as_ptr := row reads_C10 36 rfl
theorem read_PSliceMut_a_as_mut_ptr : skOf sk_PSliceMut_a_as_mut_ptr = exp_PSliceMut_a_as_mut_ptr := row reads_C10 37 rfl
theorem read_PSliceMut_a_from_raw_parts_mut : skOf sk_PSliceMut_a_from_raw_parts_mut = exp_PSliceMut_a_from_raw_parts_mut := row reads_C10 38 rfl

end Soa.Sk
