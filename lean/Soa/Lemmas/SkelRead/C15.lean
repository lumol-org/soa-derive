import Soa.Lemmas.SkelRead.Row
import Soa.Model.SkelExpected
import Soa.Extracted.Skel
/-!
# The templates extracted on this run read as the expected skeletons — functions in the scope of C15

Decided by the kernel on the regenerated table `Soa/Extracted/Skel.lean`, the whole scope in one evaluation (`Sk.row` says why);
`read_X` is its row for the function `X`. Generated by `bin/reskel`.
-/
namespace Soa.Sk
open Soa.Extracted Soa.Sk.Expected

theorem reads_C15 : ∀ r ∈ [
    (sk_P_as_ref, exp_P_as_ref),
    (sk_P_as_mut, exp_P_as_mut),
    (sk_PRef_a_to_owned, exp_PRef_a_to_owned),
    (sk_PRefMut_a_to_owned, exp_PRefMut_a_to_owned),
    (sk_PRefMut_a_replace, exp_PRefMut_a_replace)],
    skOf r.1 = r.2 := by decide +kernel

theorem read_P_as_ref : skOf sk_P_as_ref = exp_P_as_ref := row reads_C15 0 rfl
theorem read_P_as_mut : skOf sk_P_as_mut = exp_P_as_mut := row reads_C15 1 rfl
theorem read_PRef_a_to_owned : skOf sk_PRef_a_to_owned = exp_PRef_a_to_owned := row reads_C15 2 rfl
theorem read_PRefMut_a_to_owned : skOf sk_PRefMut_a_to_owned = exp_PRefMut_a_to_owned := row reads_C15 3 rfl
theorem read_PRefMut_a_replace : skOf sk_PRefMut_a_replace = exp_PRefMut_a_replace := row reads_C15 4 rfl

end Soa.Sk
