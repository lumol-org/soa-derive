import Soa.Lemmas.SkelRead.Row
import Soa.Model.SkelExpected
import Soa.Extracted.Skel
/-!
# The templates extracted on this run read as the expected skeletons — functions in the scope of C06

Decided by the kernel on the regenerated table `Soa/Extracted/Skel.lean`, the whole scope in one evaluation (`Sk.row` says why);
`read_X` is its row for the function `X`. Generated by `bin/reskel`.
-/
namespace Soa.Sk
open Soa.Extracted Soa.Sk.Expected

theorem reads_C06 : ∀ r ∈ [
    (sk_PIter_a_Iterator_next, exp_PIter_a_Iterator_next),
    (sk_PIter_a_DoubleEndedIterator_next_back, exp_PIter_a_DoubleEndedIterator_next_back),
    (sk_PSlice_a_iter, exp_PSlice_a_iter),
    (sk_PSlice_a_into_iter, exp_PSlice_a_into_iter),
    (sk_PIterMut_a_Iterator_next, exp_PIterMut_a_Iterator_next),
    (sk_PIterMut_a_DoubleEndedIterator_next_back, exp_PIterMut_a_DoubleEndedIterator_next_back),
    (sk_PSliceMut_a_iter_mut, exp_PSliceMut_a_iter_mut),
    (sk_PSliceMut_a_into_iter, exp_PSliceMut_a_into_iter),
    (sk_PSlice_a_IntoIterator_into_iter, exp_PSlice_a_IntoIterator_into_iter),
    (sk_aPSlice_b_IntoIterator_into_iter, exp_aPSlice_b_IntoIterator_into_iter),
    (sk_PSliceMut_a_IntoIterator_into_iter, exp_PSliceMut_a_IntoIterator_into_iter)],
    skOf r.1 = r.2 := by decide +kernel

theorem read_PIter_a_Iterator_next : skOf sk_PIter_a_Iterator_next = exp_PIter_a_Iterator_next := row reads_C06 0 rfl
theorem read_PIter_a_DoubleEndedIterator_next_back : skOf sk_PIter_a_DoubleEndedIterator_next_back = exp_PIter_a_DoubleEndedIterator_next_back := row reads_C06 1 rfl
theorem read_PSlice_a_iter : skOf sk_PSlice_a_iter = exp_PSlice_a_iter := row reads_C06 2 rfl
theorem read_PSlice_a_into_iter : skOf sk_PSlice_a_into_iter = exp_PSlice_a_into_iter := row reads_C06 3 rfl
theorem read_PIterMut_a_Iterator_next : skOf sk_PIterMut_a_Iterator_next = exp_PIterMut_a_Iterator_next := row reads_C06 4 rfl
theorem read_PIterMut_a_DoubleEndedIterator_next_back : skOf sk_PIterMut_a_DoubleEndedIterator_next_back = exp_PIterMut_a_DoubleEndedIterator_next_back := row reads_C06 5 rfl
theorem read_PSliceMut_a_iter_mut : skOf sk_PSliceMut_a_iter_mut = exp_PSliceMut_a_iter_mut := row reads_C06 6 rfl
theorem read_PSliceMut_a_into_iter : skOf sk_PSliceMut_a_into_iter = exp_PSliceMut_a_into_iter := row reads_C06 7 rfl
theorem read_PSlice_a_IntoIterator_into_iter : skOf sk_PSlice_a_IntoIterator_into_iter = exp_PSlice_a_IntoIterator_into_iter := row reads_C06 8 rfl
theorem read_aPSlice_b_IntoIterator_into_iter : skOf sk_aPSlice_b_IntoIterator_into_iter = exp_aPSlice_b_IntoIterator_into_iter := row reads_C06 9 rfl
theorem read_PSliceMut_a_IntoIterator_into_iter : skOf sk_PSliceMut_a_IntoIterator_into_iter = exp_PSliceMut_a_IntoIterator_into_iter := row reads_C06 10 rfl

end Soa.Sk
