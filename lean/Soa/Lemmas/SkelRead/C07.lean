import Soa.Lemmas.SkelRead.Row
import Soa.Model.SkelExpected
import Soa.Extracted.Skel
/-!
# The templates extracted on this run read as the expected skeletons — functions in the scope of C07

Decided by the kernel on the regenerated table `Soa/Extracted/Skel.lean`, the whole scope in one evaluation (`Sk.row` says why);
`read_X` is its row for the function `X`. Generated by `bin/reskel`.
-/
namespace Soa.Sk
open Soa.Extracted Soa.Sk.Expected

theorem reads_C07 : ∀ r ∈ [
    (sk_PSliceMut_a_private_apply_permutation, exp_PSliceMut_a_private_apply_permutation)],
    skOf r.1 = r.2 := by decide +kernel

theorem read_PSliceMut_a_private_apply_permutation : skOf sk_PSliceMut_a_private_apply_permutation = exp_PSliceMut_a_private_apply_permutation := row reads_C07 0 rfl

end Soa.Sk
