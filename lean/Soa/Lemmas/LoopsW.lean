import Soa.Lemmas.WriteRows
import Soa.Lemmas.RetainIdx
/-!
# The hand-written `retain` / `retain_mut` loop

Model-level facts (no extracted code involved): a write keeps lockstep and shape; one unfolding
of the loop; the loop on the field arrays is the row-level loop `RetainIdx.loopB` on the rows
(`retainLoop_sim`), for every answer sequence, every panicking call and every write.
-/
namespace Soa.Lp

theorem setLeaf_keeps (leaf pos id : Nat) : ∀ (c : Cols) (j : Nat),
    c.same (Model.setLeaf leaf pos id c j).1 ∧ ∀ n, c.lock n → (Model.setLeaf leaf pos id c j).1.lock n
  | .leaf xs, j => by
    rw [Model.setLeaf]
    split
    · exact ⟨trivial, fun _ h => lock_leaf.mpr (List.length_set.trans (lock_leaf.mp h))⟩
    · exact ⟨trivial, fun _ h => h⟩
  | .nest [], _ => ⟨trivial, fun _ h => absurd rfl (lock_nest.mp h).1⟩
  | .nest (f :: fs), j => ⟨(go (f :: fs) j).1, fun n h => lock_nest.mpr ⟨nofun, (go (f :: fs) j).2 n (lock_nest.mp h).2⟩⟩
where go : ∀ (fs : List Cols) (j : Nat), Cols.same.sameL fs (Model.setLeaf.setLeafL leaf pos id fs j).1 ∧
    ∀ n, (∀ c ∈ fs, c.lock n) → ∀ d ∈ (Model.setLeaf.setLeafL leaf pos id fs j).1, d.lock n
  | [], _ => ⟨trivial, fun _ _ => nofun⟩
  | f :: fs, j => ⟨⟨(setLeaf_keeps leaf pos id f j).1, (go fs _).1⟩, fun n h => List.forall_mem_cons.mpr
    ⟨(setLeaf_keeps leaf pos id f j).2 n (h f (.head _)), (go fs _).2 n fun x hx => h x (.tail _ hx)⟩⟩

theorem writeLeaf_lock (c : Cols) (n leaf pos id : Nat) (h : c.lock n) : (Model.writeLeaf c leaf pos id).1.lock n := by
  unfold Model.writeLeaf
  split
  · exact (setLeaf_keeps leaf pos id c 0).2 n h
  · exact h

theorem writeLeaf_same (c : Cols) (leaf pos id : Nat) : c.same (Model.writeLeaf c leaf pos id).1 := by
  unfold Model.writeLeaf
  split
  · exact (setLeaf_keeps leaf pos id c 0).1
  · exact same_refl c

section retain
variable (keep : Nat → Bool) (boom : Option Nat) (touch : Nat → Nat → Option (Nat × Nat)) (n : Nat)

/-- the container, events and created values after the callback's write at call / position `i` -/
def touched (c : Cols) (ev : Ev) (made : List Nat) (i : Nat) : Cols × Ev × List Nat :=
  match touch i i with
  | some (l, id) => let w := Model.writeLeaf c l i id; (w.1, ev ++ w.2.1, made ++ w.2.2)
  | none => (c, ev, made)

theorem touched_lock (c : Cols) (ev : Ev) (made : List Nat) (i : Nat) (hc : c.lock n) : (touched touch c ev made i).1.lock n := by
  unfold touched
  split
  · exact writeLeaf_lock c n _ _ _ hc
  · exact hc

/-- what the callback's write at its `i`-th call leaves in the struct it is shown -/
def updOf (i : Nat) (e : Elem) : Elem :=
  match touch i i with
  | some (l, id) => (Spec.setLeafE l id e 0).1
  | none => e

theorem touched_rows (c : Cols) (ev : Ev) (made : List Nat) (i : Nat) (e : Elem) (hc : c.lock n) (he : c.rows[i]? = some e) :
    c.same (touched touch c ev made i).1 ∧ (touched touch c ev made i).1.rows = c.rows.set i (updOf touch i e) := by
  unfold touched updOf
  split
  · exact ⟨writeLeaf_same c _ _ _, writeLeaf_rows c n _ _ _ e hc he⟩
  · exact ⟨same_refl c, (set_self _ _ _ he).symm⟩

theorem retainLoop_succ (fuel i del : Nat) (c : Cols) (vis : List (List Nat)) (ev : Ev) (made : List Nat) :
    Model.retainLoop keep boom touch (fuel + 1) i del c vis ev made =
      (if boom = some i then ⟨(touched touch c ev made i).1, del, vis ++ [Model.rowAt c i], true, (touched touch c ev made i).2.1, (touched touch c ev made i).2.2⟩
       else if !keep i then Model.retainLoop keep boom touch fuel (i + 1) (del + 1) (touched touch c ev made i).1 (vis ++ [Model.rowAt c i]) (touched touch c ev made i).2.1 (touched touch c ev made i).2.2
       else if del > 0 then
         Model.retainLoop keep boom touch fuel (i + 1) del
           ((touched touch c ev made i).1.apply2 (swapOp (i - del) i) (Model.noArgs (touched touch c ev made i).1)).st (vis ++ [Model.rowAt c i]) (touched touch c ev made i).2.1 (touched touch c ev made i).2.2
       else Model.retainLoop keep boom touch fuel (i + 1) del (touched touch c ev made i).1 (vis ++ [Model.rowAt c i]) (touched touch c ev made i).2.1 (touched touch c ev made i).2.2) := by
  rfl

/-- **the loop on the field arrays is the row-level loop on the rows**, whatever the callback answers, writes, or
    wherever it panics: same rows, same `del`, same panic flag, the same elements are shown; every field array keeps
    its length and the shape is unchanged -/
theorem retainLoop_sim (fuel : Nat) :
    ∀ (i del : Nat) (c : Cols) (vis : List (List Nat)) (visR : List Elem) (ev : Ev) (made : List Nat),
    c.lock n → i + fuel = n →
    let r := Model.retainLoop keep boom touch fuel i del c vis ev made
    let r' := RetainIdx.loopB keep boom (updOf touch) fuel i del c.rows visR
    r.c.rows = r'.1 ∧ r.del = r'.2.1 ∧ r.boom = r'.2.2.2 ∧
      (vis = visR.map Elem.ids → r.vis = r'.2.2.1.map Elem.ids) ∧
      r.c.lock n ∧ c.same r.c ∧ r.del ≤ del + fuel := by
  induction fuel with
  | zero =>
    intro i del c vis visR ev made hc _
    exact ⟨rfl, rfl, rfl, id, hc, same_refl c, Nat.le_refl _⟩
  | succ fuel ih =>
    intro i del c vis visR ev made hc hi
    have hin : i < n := hi ▸ Nat.lt_add_of_pos_right (Nat.succ_pos fuel)
    obtain ⟨row, hrow, hra⟩ := rowAt_eq c n i hc hin
    have hc1 := touched_lock touch n c ev made i hc
    obtain ⟨hs1, hr1⟩ := touched_rows touch n c ev made i row hc hrow
    rw [retainLoop_succ, RetainIdx.loopB_succ _ _ _ _ _ _ _ _ _ hrow, ← hr1, hra]
    generalize touched touch c ev made i = t at hc1 hs1 ⊢
    have hv : vis = visR.map Elem.ids → vis ++ [row.ids] = (visR ++ [row]).map Elem.ids :=
      fun h => by rw [h, List.map_append]; rfl
    -- both sides go on from the written container, with the element shown appended to both logs
    have step : ∀ (del' : Nat) (c' : Cols), c'.lock n → t.1.same c' → del' ≤ del + 1 →
        let r := Model.retainLoop keep boom touch fuel (i + 1) del' c' (vis ++ [row.ids]) t.2.1 t.2.2
        let r' := RetainIdx.loopB keep boom (updOf touch) fuel (i + 1) del' c'.rows (visR ++ [row])
        r.c.rows = r'.1 ∧ r.del = r'.2.1 ∧ r.boom = r'.2.2.2 ∧
          (vis = visR.map Elem.ids → r.vis = r'.2.2.1.map Elem.ids) ∧
          r.c.lock n ∧ c.same r.c ∧ r.del ≤ del + (fuel + 1) := by
      intro del' c' hc' hs' hd'
      obtain ⟨h1, h2, h3, h4, h5, h6, h7⟩ :=
        ih (i + 1) del' c' (vis ++ [row.ids]) (visR ++ [row]) t.2.1 t.2.2 hc' ((Nat.add_right_comm i 1 fuel).trans hi)
      exact ⟨h1, h2, h3, fun h => h4 (hv h), h5, same_trans _ _ _ hs1 (same_trans _ _ _ hs' h6),
        by rw [Nat.add_comm fuel 1, ← Nat.add_assoc]; exact Nat.le_trans h7 (Nat.add_le_add_right hd' fuel)⟩
    by_cases hb : boom = some i
    · rw [if_pos hb, if_pos hb]
      exact ⟨rfl, rfl, rfl, hv, hc1, hs1, Nat.le_add_right _ _⟩
    rw [if_neg hb, if_neg hb]
    by_cases hk : (!keep i) = true
    · rw [if_pos hk, if_pos hk]
      exact step _ _ hc1 (same_refl _) (Nat.le_refl _)
    rw [if_neg hk, if_neg hk]
    by_cases hd : del > 0
    · rw [if_pos hd, if_pos hd]
      obtain ⟨_, hl, hsm, hst⟩ := swap_ok _ n (i - del) i hc1 (Nat.lt_of_le_of_lt (Nat.sub_le _ _) hin) hin
      rw [← hst]
      exact step _ _ hl hsm (Nat.le_succ _)
    · rw [if_neg hd, if_neg hd]
      exact step _ _ hc1 (same_refl _) (Nat.le_succ _)

theorem retainLoop_no_touch :
    ∀ (fuel i del : Nat) (c : Cols) (vis : List (List Nat)) (ev : Ev) (made : List Nat),
      (Model.retainLoop keep boom (fun _ _ => none) fuel i del c vis ev made).ev = ev ∧
      (Model.retainLoop keep boom (fun _ _ => none) fuel i del c vis ev made).made = made
  | 0, i, del, c, vis, ev, made => ⟨rfl, rfl⟩
  | fuel + 1, i, del, c, vis, ev, made => by
    -- whichever branch is taken, the loop goes on (or stops) with the same events and created values
    rw [Model.retainLoop]
    simp only [apply_ite Model.LoopOut.ev, apply_ite Model.LoopOut.made, retainLoop_no_touch fuel, ite_self, and_self]

/-- a call of `retain` / `retain_mut` that reports a panic stopped inside the swap loop: the final `truncate`
    never panics on the lockstep container the loop leaves -/
theorem retain_panicked (dr : Bool) (c : Cols) (hc : c.lock n) (hp : (Model.retain dr c keep boom touch).panicked = true) :
    (Model.retain dr c keep boom touch).st = (Model.retainLoop keep boom touch n 0 0 c [] {} []).c ∧
    (Model.retain dr c keep boom touch).ev = (Model.retainLoop keep boom touch n 0 0 c [] {} []).ev := by
  obtain ⟨_, _, _, _, hl, _⟩ := retainLoop_sim keep boom touch n n 0 0 c [] [] {} [] hc (Nat.zero_add n)
  unfold Model.retain at hp ⊢
  rw [firstLen_lock c n hc] at hp ⊢
  dsimp only at hp ⊢
  generalize Model.retainLoop keep boom touch n 0 0 c [] {} [] = L at hl hp ⊢
  split
  · exact ⟨rfl, rfl⟩
  · next hb =>
    rw [if_neg hb] at hp
    split at hp
    · obtain ⟨st, ht, _⟩ := truncate_eq dr (n - L.del) n L.c hl
      rw [ht] at hp
      cases hp
    · cases hp

end retain

end Soa.Lp
