import Soa.Model.SkelSem
import Soa.Lemmas.SkelRead.C01
import Soa.Lemmas.Refine
/-!
# The extracted skeletons mean what the hand-written model says

For every element-level vector method: (1) the template extracted from /repo on this run
reads as the expected skeleton (`read_*` of `SkelRead/C01.lean`, decided by the kernel on the regenerated table), and
(2) the outcome computed from that skeleton (`runElem`) equals the hand-written model
function the property theorems are about, for every container in lockstep, every shape
and every argument (`*_tie`).  A semantic change of a generated method — another guard,
another std call, another argument order, a missing `ManuallyDrop`, a different field order
of the result — changes the extracted skeleton and breaks (1) or (2); renaming a local
variable or re-indenting does not.
-/
namespace Soa.Sk
open Soa.Model Soa.Extracted Soa.Sk.Expected

theorem nestOk_same {own : String} {l : Item} {a : List Arg} {p : Post} (h : itemFE l = some (.call own a p)) :
    nestOk own l l = true := by
  -- `.call own a p` is no `memReplaceIdx`, so `nestOk` compares `l` with itself and the method name with `own`
  cases l <;> simp only [itemFE, Option.some.injEq, reduceCtorEq] at h
  all_goals
    subst h
    simp [nestOk, itemFE]

/-- the function names the nested fields are called with are the functions' own names -/
theorem names : sk_PVec_push.name = "push" ∧ sk_PVec_insert.name = "insert" ∧ sk_PVec_replace.name = "replace" ∧
    sk_PVec_remove.name = "remove" ∧ sk_PVec_swap_remove.name = "swap_remove" ∧ sk_PVec_pop.name = "pop" ∧
    sk_PVec_append.name = "append" ∧ sk_PVec_split_off.name = "split_off" :=
  ⟨rfl, rfl, rfl, rfl, rfl, rfl, rfl, rfl⟩

section core
variable {dr : Bool} {own : String} {pre : Pre} {leaf nest : Item} {fg : Option Nat} {rk : RetKind} {c : Cols}
  {ps : List ArgV} {fe : FE} {op : PolyOp}

/-- a per-field call without argument whose per-field results are reassembled into an element (`remove`, `swap_remove`,
    `pop`) or a vector (`split_off`) -/
theorem runCore_take (hfe : itemFE leaf = some fe) (hn : nestOk own leaf nest = true) (hop : leafOp ps fe = some op)
    (hg : pre.guard = none) (hsrc : itemSrc leaf = .none) (hrk : rk ≠ .unit) :
    runCore dr own pre leaf nest fg rk c ps =
      some (if pre.emptyNone ∧ c.firstLen = 0 then { st := c, isNone := true } else
        let r := c.apply2 op (noArgs c)
        if r.panicked then { st := r.st, panicked := true, ev := dropFields r.out } else { st := r.st, ret := some r.out }) := by
  unfold runCore
  simp only [hn, hfe, hop, hg, hsrc, Bool.not_true, Bool.false_eq_true, ↓reduceIte]
  cases rk
  · contradiction
  all_goals simp only [apply_ite some]

/-- a per-field call that takes the fields of the by-value parameter `k` (`push`, `insert`, `replace`), behind the guard
    of the prologue, which evaluates to `g` -/
theorem runCore_moveIn {k : Nat} {e : Cols} {g : Bool} (hfe : itemFE leaf = some fe) (hn : nestOk own leaf nest = true)
    (hop : leafOp ps fe = some op) (hE : pre.emptyNone = false) (hsrc : itemSrc leaf = .moved k) (he : colsArg ps k = some e)
    (hg : (match pre.guard with
      | none => some false
      | some (cmp, j) => (natArg ps j).bind fun i => cmpEval cmp i c.firstLen) = some g) :
    runCore dr own pre leaf nest fg rk c ps =
      some (if g then { st := c, panicked := true, ev := dropAll dr (byValue ps) } else
        let r := c.apply2 op e
        let mv := moveInEv dr (pre.md == some k) (fg == some k) r.panicked e
        match rk with
        | .unit => { st := r.st, panicked := r.panicked, ev := mv }
        | _ => if r.panicked then { st := r.st, panicked := true, ev := mv } else { st := r.st, ret := some r.out, ev := mv }) := by
  unfold runCore
  simp only [hn, hfe, hop, hsrc, hE, he, Bool.not_true, Bool.false_eq_true, ↓reduceIte, false_and]
  -- `hg` speaks of the guard through a `match` of its own: meet `runCore`'s on the two forms of the guard
  rcases hpg : pre.guard with _ | ⟨cmp, j⟩ <;> simp only [hpg] at hg ⊢
  · cases hg
    cases rk <;> simp only [Bool.false_eq_true, ↓reduceIte, apply_ite some]
  · rw [hg]
    cases g <;> cases rk <;> simp only [Bool.false_eq_true, ↓reduceIte, apply_ite some]

end core

variable {c e : Cols} {n : Nat}

theorem push_tie (dr : Bool) (c e : Cols) :
    runElem dr sk_PVec_push c [.elem e] = some (Model.push c e) := by
  rw [runElem, read_PVec_push, exp_PVec_push, runSk, runCore_moveIn rfl (nestOk_same rfl) (by rw [leafOp]) rfl rfl rfl rfl]
  rfl

theorem insert_tie (dr : Bool) (i : Nat) (hc : c.lock n) (he : e.lock 1) (hs : c.same e) :
    runElem dr sk_PVec_insert c [.nat i, .elem e] = some (Model.insert dr c i e) := by
  rw [runElem, read_PVec_insert, exp_PVec_insert, runSk,
    runCore_moveIn rfl (nestOk_same rfl) (by rw [leafOp]; rfl) rfl rfl rfl rfl, Model.insert, firstLen_lock c n hc]
  by_cases hg : i > n
  · simp [hg, byValue, dropAll]
  · simp [hg, moveInEv, (apply2_ok (insertOp i) n 1 (by simp [insertOp]; omega) c e hc he hs).1]

theorem replace_tie (dr : Bool) (i : Nat) (hc : c.lock n) (he : e.lock 1) (hs : c.same e) :
    runElem dr sk_PVec_replace c [.nat i, .elem e] = some (Model.replace dr c i e) := by
  -- the leaf (`mem::replace` of the place) is not spelt like the nested call: the first form of `nestOk`, decided on the two items
  rw [runElem, read_PVec_replace, exp_PVec_replace, runSk, if_pos rfl,
    runCore_moveIn rfl (by decide) (by rw [leafOp]; rfl) rfl rfl rfl rfl, Model.replace, firstLen_lock c n hc]
  by_cases hg : i ≥ n
  · simp [hg, byValue, dropAll]
  · simp [hg, moveInEv, (apply2_ok (replaceOp i) n 1 (by simp [replaceOp]; omega) c e hc he hs).1]

theorem remove_tie (dr : Bool) (i : Nat) (c : Cols) :
    runElem dr sk_PVec_remove c [.nat i] = some (Model.remove c i) := by
  rw [runElem, read_PVec_remove, exp_PVec_remove, runSk, if_pos rfl,
    runCore_take rfl (nestOk_same rfl) (by rw [leafOp]; rfl) rfl rfl (by nofun)]
  rfl

theorem swap_remove_tie (dr : Bool) (i : Nat) (c : Cols) :
    runElem dr sk_PVec_swap_remove c [.nat i] = some (Model.swapRemove c i) := by
  rw [runElem, read_PVec_swap_remove, exp_PVec_swap_remove, runSk, if_pos rfl,
    runCore_take rfl (nestOk_same rfl) (by rw [leafOp]; rfl) rfl rfl (by nofun)]
  rfl

theorem pop_tie (dr : Bool) (c : Cols) :
    runElem dr sk_PVec_pop c [] = some (Model.pop c) := by
  rw [runElem, read_PVec_pop, exp_PVec_pop, runSk, if_pos rfl, runCore_take rfl (nestOk_same rfl) (by rw [leafOp]) rfl rfl (by nofun)]
  simp [Model.pop]

theorem append_tie (dr : Bool) (c d : Cols) :
    runElem dr sk_PVec_append c [.cont d] = some (Model.append c d) := by
  rw [runElem, read_PVec_append, exp_PVec_append, runSk, runCore, nestOk_same rfl]
  dsimp only [itemFE]
  rw [leafOp]
  rfl

theorem split_off_tie (dr : Bool) (i : Nat) (c : Cols) :
    runElem dr sk_PVec_split_off c [.nat i] = some (Model.splitOff c i) := by
  rw [runElem, read_PVec_split_off, exp_PVec_split_off, runSk,
    runCore_take rfl (nestOk_same rfl) (by rw [leafOp]; rfl) rfl rfl (by nofun)]
  rfl

theorem to_vec_tie (src : Cols) :
    runToVec sk_PSlice_a_to_vec src = some (Model.toVec src) ∧
    runToVec sk_PSliceMut_a_to_vec src = some (Model.toVec src) := by
  rw [runToVec, runToVec, isToVec, isToVec, read_PSlice_a_to_vec, read_PSliceMut_a_to_vec]
  exact ⟨rfl, rfl⟩

end Soa.Sk
