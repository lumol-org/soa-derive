import Lean.Meta.Tactic.Simp.RegisterCommand
/-- what the interpreter of `Soa/Model/Loop.lean` does on one syntactic form (`Soa/Lemmas/LoopStep.lean`) -/
register_simp_attr lpstep
