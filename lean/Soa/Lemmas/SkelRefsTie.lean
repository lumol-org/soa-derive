import Soa.Model.SkelRefs
import Soa.Lemmas.SkelRead.C15
import Soa.Lemmas.SkelRead.C05
import Soa.Lemmas.SkelRead.C07
import Soa.Lemmas.SkelRead.C01
import Soa.Lemmas.Refine
/-!
# Element references, `swap`, permutation application and `len()`: extracted = hand model
-/
namespace Soa.Sk
open View Soa.Model Soa.Extracted Soa.Sk.Expected

/-- the four `From` impls are `value.to_owned()` -/
theorem from_impls : isFromImpl sk_P_From_PRef_a_from = true ∧ isFromImpl sk_P_From_aPRef_a_from = true ∧
    isFromImpl sk_P_From_PRefMut_a_from = true ∧ isFromImpl sk_P_From_aPRefMut_a_from = true := by decide +kernel

/-- `to_owned()` of a shared and of a mutable element reference (and therefore the four `From` impls, whose body
    is `value.to_owned()`): every leaf at the referenced position is cloned once, in declaration order -/
theorem to_owned_tie (c : Cols) (p : Nat) :
    runToOwned sk_PRef_a_to_owned sk_P_From_PRef_a_from false c p = some (rowIds c p, { clones := rowIds c p }) ∧
    runToOwned sk_PRefMut_a_to_owned sk_P_From_aPRefMut_a_from true c p = some (rowIds c p, { clones := rowIds c p }) := by
  have h1 : sk_PRef_a_to_owned.name = "to_owned" := rfl
  have h2 : sk_PRefMut_a_to_owned.name = "to_owned" := rfl
  rw [runToOwned, runToOwned, read_PRef_a_to_owned, read_PRefMut_a_to_owned, exp_PRef_a_to_owned, exp_PRefMut_a_to_owned]
  simp [h1, h2, from_impls.1, from_impls.2.2.2, isFromNested]

/-- `RefMut::replace` at a live element is `Model.replace` without its guard: the value lands in exactly that
    element, the old element is returned, nothing is destroyed -/
theorem ref_replace_tie (dr : Bool) {c e : Cols} {n : Nat} (p : Nat) (hc : c.lock n) (he : e.lock 1) (hs : c.same e) (hp : p < n) :
    runRefReplace dr sk_PRefMut_a_replace c p e = some (Model.replace dr c p e) := by
  have h1 : sk_PRefMut_a_replace.name = "replace" := rfl
  have hg : ¬ p ≥ c.firstLen := by rw [firstLen_lock c n hc]; omega
  have hpn := (apply2_ok (replaceOp p) n 1 (by simp [replaceOp]; omega) c e hc he hs).1
  rw [runRefReplace, read_PRefMut_a_replace, exp_PRefMut_a_replace]
  simp [h1, hpn, hg, moveInEv, Model.replace]

/-- `value.as_ref()` / `value.as_mut()`: a reference to every field of the value -/
theorem value_as_ref_tie (sh : Shape) (hw : sh.wf) (p : Int) :
    runView sk_P_as_ref (VT.uniform (.pos p) sh) [] = .ok (.one (VT.uniform (.pos p) sh)) ∧
    runView sk_P_as_mut (VT.uniform (.pos p) sh) [] = .ok (.one (VT.uniform (.pos p) sh)) := by
  refine ⟨?_, ?_⟩
  · rw [runView_plain read_P_as_ref (nestOkView_borrow ..) hw rfl, viewLeaf]; rfl
  · rw [runView_plain read_P_as_mut (nestOkView_borrow ..) hw rfl, viewLeaf]; rfl

/-- `slice.swap(a, b)` on the window `w`: every field swaps the parent positions `w.s+a`, `w.s+b`; out of range panics
    before anything is touched -/
theorem swap_tie (c : Cols) (w : Win) (a b : Nat) :
    runSwap sk_PSliceMut_a_swap c w a b =
      some (if a < w.l ∧ b < w.l then
              { st := (c.apply2 (swapOp (w.s + a) (w.s + b)) (noArgs c)).st,
                panicked := (c.apply2 (swapOp (w.s + a) (w.s + b)) (noArgs c)).panicked }
            else { st := c, panicked := true }) := by
  have h1 : sk_PSliceMut_a_swap.name = "swap" := rfl
  rw [runSwap, read_PSliceMut_a_swap, exp_PSliceMut_a_swap]
  by_cases h : a < w.l ∧ b < w.l <;> simp [h1, h]

theorem apply_permutation_tie (c : Cols) (w : Win) (ps : List Nat) :
    runApplyPermutation sk_PSliceMut_a_private_apply_permutation c w ps = some (gatherWin c w ps) := by
  have h1 : sk_PSliceMut_a_private_apply_permutation.name = "__private_apply_permutation" := rfl
  rw [runApplyPermutation, read_PSliceMut_a_private_apply_permutation, exp_PSliceMut_a_private_apply_permutation]
  simp [h1]

/-- every struct has at least one field -/
def Cols.wfc : Cols → Prop
  | .leaf _ => True
  | .nest fs => fs ≠ [] ∧ ∀ f ∈ fs, Cols.wfc f

theorem leaves_ne_nil_wfc : ∀ c : Cols, Cols.wfc c → c.leaves ≠ []
  | .leaf _, _ => nofun
  | .nest fs, h => by
    rw [Cols.wfc] at h
    match fs, h with
    | [], h => exact absurd rfl h.1
    | c :: _, h => exact fun e => leaves_ne_nil_wfc c (h.2 c (.head _)) (List.append_eq_nil_iff.mp e).1

theorem firstLen_cons (f : Cols) (fs : List Cols) (h : Cols.wfc f) : (Cols.nest (f :: fs)).firstLen = f.firstLen := by
  rw [Cols.firstLen, Cols.firstLen, Cols.leaves, Cols.leaves.leavesL]
  match f.leaves, leaves_ne_nil_wfc f h with
  | _ :: _, _ => rfl

theorem lenTree_release : ∀ c : Cols, Cols.wfc c → lenTree .release c = some c.firstLen
  | .leaf _, _ => rfl
  | .nest fs, h => by
    rw [Cols.wfc] at h
    match fs, h with
    | [], h => exact absurd rfl h.1
    | f :: fs, h =>
      have hf := h.2 f (.head _)
      exact (lenTree_release f hf).trans (congrArg some (firstLen_cons f fs hf).symm)

theorem lenTree_debug_iff : ∀ (c : Cols) (n : Nat), Cols.wfc c →
    (lenTree .debug c = some n ↔ ∀ l ∈ c.leaves, l.length = n)
  | .leaf xs, n, _ => by simp [lenTree, Cols.leaves]
  | .nest fs, n, hw => by
    rw [Cols.wfc] at hw
    rw [Cols.leaves, go fs n hw.2, lenTree]
    cases fs with
    | nil => exact absurd rfl hw.1
    | cons f fs =>
      rw [lenTree.lensL]
      rcases lenTree .debug f with _ | x
      · simp
      rcases lenTree.lensL fs with _ | xs
      · simp
      -- left: the other lengths equal the first, which is `n`; right: the first and the others are `n`
      simp
      exact and_comm.trans (and_congr_right fun h => by rw [h])
where go : ∀ (fs : List Cols) (n : Nat), (∀ f ∈ fs, Cols.wfc f) →
    ((∀ l ∈ Cols.leaves.leavesL fs, l.length = n) ↔ ∃ ls, lenTree.lensL fs = some ls ∧ ∀ y ∈ ls, y = n)
  | [], _, _ => by simp [Cols.leaves.leavesL, lenTree.lensL]
  | f :: fs, n, hw => by
    rw [List.forall_mem_cons] at hw
    rw [Cols.leaves.leavesL, List.forall_mem_append, ← lenTree_debug_iff f n hw.1, go fs n hw.2, lenTree.lensL]
    rcases lenTree .debug f with _ | x
    · simp
    rcases lenTree.lensL fs with _ | xs <;> simp

theorem len_debug_iff (c : Cols) (n : Nat) (hne : c.leaves ≠ []) :
    Model.len .debug c = some n ↔ ∀ l ∈ c.leaves, l.length = n := by
  unfold Model.len Cols.firstLen
  cases hl : c.leaves with
  | nil => exact absurd hl hne
  | cons l ls =>
    -- left: the other lengths equal the first, which is `n`; right: the first and the others are `n`
    simp
    exact and_comm.trans (and_congr_right fun h => by rw [h])

/-- the extracted `len()` is the model's `len`: the first field's length; a debug build panics exactly when
    some leaf array (at any nesting depth) has another length -/
theorem lenTree_eq (p : Prof) (c : Cols) (hw : Cols.wfc c) : lenTree p c = Model.len p c := by
  cases p with
  | release => exact lenTree_release c hw
  | debug =>
    exact Option.ext fun n => by rw [lenTree_debug_iff c n hw, len_debug_iff c n (leaves_ne_nil_wfc c hw)]

theorem isLenFn_of {f : Fn} {m x : String}
    (hr : skOf f = .firstChecked m (.dbgAssertEq (.call m [] .none) x) (.dbgAssertEq (.call m [] .none) x)) (hn : f.name = m) :
    isLenFn f m = true := by
  simp [isLenFn, hr, hn]

theorem len_tie (p : Prof) (c : Cols) (hw : Cols.wfc c) :
    runLen sk_PVec_len p c = some (Model.len p c) ∧
    runLen sk_PSlice_a_len p c = some (Model.len p c) ∧
    runLen sk_PSliceMut_a_len p c = some (Model.len p c) := by
  simp [runLen, isLenFn_of read_PVec_len rfl, isLenFn_of read_PSlice_a_len rfl, isLenFn_of read_PSliceMut_a_len rfl, lenTree_eq p c hw]

/-- `is_empty()` has the same form with `is_empty` in place of `len` -/
theorem is_empty_form : isLenFn sk_PVec_is_empty "is_empty" = true ∧ isLenFn sk_PSlice_a_is_empty "is_empty" = true ∧
    isLenFn sk_PSliceMut_a_is_empty "is_empty" = true :=
  ⟨isLenFn_of read_PVec_is_empty rfl, isLenFn_of read_PSlice_a_is_empty rfl, isLenFn_of read_PSliceMut_a_is_empty rfl⟩

end Soa.Sk
