import Soa.Model.Exec
import Soa.Lemmas.SkelIterTie
/-!
# The view and iterator steps the driver executes are the hand-written window functions

`Soa.Exec.Gen.splitAt`, `first`, `last`, `splitFirst`, `splitLast`, `reborrow`, `asShared`,
`iterStep` run the skeletons extracted from /repo on a value whose fields all cover the
window `w`, and require the answer to be the same in every field.  For every well-formed
shape they equal `View.splitAt`, … — the functions the C05 / C06 theorems are about.
-/
namespace Soa.Exec.Gen
open Soa.Sk Soa.View Soa.Extracted

theorem leavesT_eq : ∀ t : VT LV, leavesT t = zipLen.VT.flat' t
  | .leaf _ => rfl
  | .nest fs => go fs
where go : ∀ fs : List (VT LV), leavesT.leavesTL fs = zipLen.flatL' fs
  | [] => rfl
  | f :: fs => by rw [leavesT.leavesTL, zipLen.flatL', leavesT_eq f, go fs]

theorem leavesT_uniform (a : LV) (sh : Shape) (hw : sh.wf) : ∃ n, leavesT (VT.uniform a sh) = List.replicate (n + 1) a :=
  leavesT_eq _ ▸ flat'_replicate a sh hw

theorem winOfT_uniform (w : Win) (sh : Shape) (hw : sh.wf) : winOfT (VT.uniform (.win w) sh) = some w := by
  obtain ⟨n, h⟩ := leavesT_uniform (.win w) sh hw
  simp [winOfT, h, List.replicate_succ]

theorem posOfT_uniform (p : Nat) (sh : Shape) (hw : sh.wf) : posOfT (VT.uniform (.pos p) sh) = some p := by
  obtain ⟨n, h⟩ := leavesT_uniform (.pos p) sh hw
  simp [posOfT, h, List.replicate_succ]

variable (sh : Shape) (hw : sh.wf)
include hw

theorem splitAt_eq (m : Bool) (w : Win) (k side : Nat) (hs : side = 0 ∨ side = 1) :
    splitAt sh m w k side = View.splitAt w k side := by
  have hrun : runView (if m then sk_PSliceMut_a_split_at_mut else sk_PSlice_a_split_at) (VT.uniform (.win w) sh) [.nat k] =
      runView sk_PSlice_a_split_at (VT.uniform (.win w) sh) [.nat k] := by
    cases m
    · rfl
    · exact (split_at_mut_tie sh hw w k).trans (split_at_tie sh hw w k).symm
  rw [splitAt, hrun, split_at_tie sh hw w k]
  unfold View.splitAt
  by_cases hk : k ≤ w.l
  · rcases hs with rfl | rfl <;> simp [hk, winOfT_uniform _ sh hw]
  · simp [hk]

theorem first_eq (m : Bool) (w : Win) : first sh m w = View.first w := by
  have hrun : runView (if m then sk_PSliceMut_a_first_mut else sk_PSlice_a_first) (VT.uniform (.win w) sh) [] =
      runView sk_PSlice_a_first (VT.uniform (.win w) sh) [] := by
    cases m
    · rfl
    · exact (first_mut_tie sh hw w).trans (first_tie sh hw w).symm
  rw [first, viewPos, hrun, first_tie sh hw w, View.first]
  by_cases h0 : w.l = 0 <;> simp [h0, posOfT_uniform _ sh hw]

theorem last_eq (m : Bool) (w : Win) : last sh m w = View.last w := by
  have hrun : runView (if m then sk_PSliceMut_a_last_mut else sk_PSlice_a_last) (VT.uniform (.win w) sh) [] =
      runView sk_PSlice_a_last (VT.uniform (.win w) sh) [] := by
    cases m
    · rfl
    · exact (last_mut_tie sh hw w).trans (last_tie sh hw w).symm
  rw [last, viewPos, hrun, last_tie sh hw w, View.last]
  by_cases h0 : w.l = 0 <;> simp [h0, posOfT_uniform _ sh hw]

theorem splitFirst_eq (m : Bool) (w : Win) : splitFirst sh m w = View.splitFirst w := by
  have hrun : runView (if m then sk_PSliceMut_a_split_first_mut else sk_PSlice_a_split_first) (VT.uniform (.win w) sh) [] =
      runView sk_PSlice_a_split_first (VT.uniform (.win w) sh) [] := by
    cases m
    · rfl
    · exact (split_first_mut_tie sh hw w).trans (split_first_tie sh hw w).symm
  rw [splitFirst, viewPosWin, hrun, split_first_tie sh hw w, View.splitFirst]
  by_cases h0 : w.l = 0 <;> simp [h0, posOfT_uniform _ sh hw, winOfT_uniform _ sh hw]

theorem splitLast_eq (m : Bool) (w : Win) : splitLast sh m w = View.splitLast w := by
  have hrun : runView (if m then sk_PSliceMut_a_split_last_mut else sk_PSlice_a_split_last) (VT.uniform (.win w) sh) [] =
      runView sk_PSlice_a_split_last (VT.uniform (.win w) sh) [] := by
    cases m
    · rfl
    · exact (split_last_mut_tie sh hw w).trans (split_last_tie sh hw w).symm
  rw [splitLast, viewPosWin, hrun, split_last_tie sh hw w, View.splitLast]
  by_cases h0 : w.l = 0 <;> simp [h0, posOfT_uniform _ sh hw, winOfT_uniform _ sh hw]

theorem reborrow_eq (m : Bool) (w : Win) : reborrow sh m w = .ok w := by
  unfold reborrow viewWin
  obtain ⟨hshared, hmut, -, -⟩ := same_window_tie sh hw w
  cases m <;> simp [hshared, hmut, winOfT_uniform _ sh hw]

theorem asShared_eq (m : Bool) (tok : String) (w : Win) : asShared sh m tok w = .ok w := by
  unfold asShared viewWin
  obtain ⟨-, -, href, hslice⟩ := same_window_tie sh hw w
  cases m
  · simp
  · by_cases ht : tok == "as_ref" <;> simp [ht, href, hslice, winOfT_uniform _ sh hw]

theorem iterStep_eq (mutIter back : Bool) (w : Win) :
    iterStep sh mutIter back w = if back then View.nextBack w else View.next w := by
  have hp := fun p => posOfT_uniform p sh hw
  have hv := fun v => winOfT_uniform v sh hw
  -- whatever the step yields, reading it back off values that are the same in every field returns it
  cases mutIter <;> cases back
  · rw [iterStep, (next_tie sh hw w).1]
    rcases View.next w with ⟨_ | p, w'⟩ <;> simp [hp, hv]
  · rw [iterStep, (next_back_tie sh hw w).1]
    rcases View.nextBack w with ⟨_ | p, w'⟩ <;> simp [hp, hv]
  · rw [iterStep, (next_tie sh hw w).2]
    rcases View.next w with ⟨_ | p, w'⟩ <;> simp [hp, hv]
  · rw [iterStep, (next_back_tie sh hw w).2]
    rcases View.nextBack w with ⟨_ | p, w'⟩ <;> simp [hp, hv]

end Soa.Exec.Gen
