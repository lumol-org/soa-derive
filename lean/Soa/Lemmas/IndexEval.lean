import Soa.Model.IndexRun
/-!
# The index interpreter, characterised: lockstep containers, `eval` one constructor at a time, a
field array against std, and std's own forwarding between index forms.  Independent of the
extracted table.
-/
namespace Soa.IdxIR

theorem wf_nest : (Shape.nest fs).wf ↔ fs ≠ [] ∧ ∀ f ∈ fs, f.wf := by rw [Shape.wf]

theorem leaves_uniform (n : Nat) : ∀ sh : Shape, sh.wf → (LT.uniform n sh).leaves ≠ [] ∧ ∀ x ∈ (LT.uniform n sh).leaves, x = n
  | .leaf, _ => ⟨nofun, fun _ => List.eq_of_mem_singleton⟩
  | .nest [], h => absurd rfl (wf_nest.mp h).1
  | .nest (f :: fs), h =>
    have hfs := (wf_nest.mp h).2
    ⟨fun he => (leaves_uniform n f (hfs f (.head _))).1 (List.append_eq_nil_iff.mp he).1, go (f :: fs) hfs⟩
where go : ∀ fs : List Shape, (∀ f ∈ fs, f.wf) → ∀ x ∈ LT.leaves.leavesL (LT.uniform.uniformL n fs), x = n
  | [], _ => nofun
  | f :: fs, h => List.forall_mem_append.mpr ⟨(leaves_uniform n f (h f (.head _))).2, go fs fun x hx => h x (.tail _ hx)⟩

theorem first_uniform (n : Nat) (sh : Shape) (hw : sh.wf) : (LT.uniform n sh).first = n := by
  have h := leaves_uniform n sh hw
  unfold LT.first
  cases hl : (LT.uniform n sh).leaves with
  | nil => exact absurd hl h.1
  | cons x xs => exact h.2 x (hl ▸ List.mem_cons_self)

/-- on a lockstep container the debug assertion of `len()` passes: both profiles return `n` -/
theorem lenChecked_uniform (p : Prof) (n : Nat) (sh : Shape) (hw : sh.wf) :
    (LT.uniform n sh).lenChecked p = some n := by
  cases p
  · have : (LT.uniform n sh).leaves.all (· == n) = true :=
      List.all_eq_true.mpr fun x hx => beq_iff_eq.mpr ((leaves_uniform n sh hw).2 x hx)
    simp only [LT.lenChecked, first_uniform n sh hw, this, if_true]
  · exact congrArg some (first_uniform n sh hw)

theorem buildLT_uniform (n : Nat) (iv : IV) (m : Mode) : ∀ sh : Shape, sh.wf → buildLT iv m (LT.uniform n sh) = leafAcc n iv m
  | .leaf, _ => rfl
  | .nest fs, h =>
    have ⟨hne, hfs⟩ := wf_nest.mp h
    go fs hne hfs
where go : ∀ fs : List Shape, fs ≠ [] → (∀ f ∈ fs, f.wf) → buildLT.go iv m (LT.uniform.uniformL n fs) = leafAcc n iv m
  | [], h, _ => absurd rfl h
  | [f], _, h => buildLT_uniform n iv m f (h f (.head _))
  | f :: g :: fs, _, h => by
    have h1 := buildLT_uniform n iv m f (h f (.head _))
    have h2 := go (g :: fs) nofun fun x hx => h x (.tail _ hx)
    simp only [LT.uniform.uniformL] at h2 ⊢
    simp only [buildLT.go, h1, h2]
    -- both sides of the comparison in the struct literal are `leafAcc n iv m`
    cases leafAcc n iv m with
    | err e => rfl
    | ok v => cases v <;> simp only [↓reduceIte]

theorem addU_small (p : Prof) (x : Nat) (h : x < MAX) : addU p x 1 = some (x + 1) :=
  if_pos h

/-! ## `eval`, one constructor at a time

`simp [eval]` re-derives the equations of the nested match at every use; these are the same
equations, stated once.  `eval_call` folds the callee's table lookup back into `runF`, so that a
theorem about the callee rewrites it. -/

/-- `runLT` with the table and the fuel as parameters (`runLT = runF table 8`): what a `.call` node runs -/
def runF (tbl : Kind → Form → M → Option B) (f : Nat) (p : Prof) (t : LT) (k : Kind) (iv : IV) (m : M) : R :=
  match tbl k iv.form m with
  | some b => eval tbl p t f k iv b
  | none => .err .stuck

section
variable (tbl : Kind → Form → M → Option B) (p : Prof) (t : LT) (f : Nat) (k : Kind) (iv : IV)

theorem eval_ite (c : C) (a b : B) : eval tbl p t (f + 1) k iv (.ite c a b) =
    match evalC p t iv c with
    | some true => eval tbl p t f k iv a
    | some false => eval tbl p t f k iv b
    | none => .err .panic := rfl

theorem eval_some (b : B) : eval tbl p t (f + 1) k iv (.some b) =
    match eval tbl p t f k iv b with
    | .ok .early => .ok .none_
    | .ok v => .ok (.some_ v)
    | .err e => .err e := rfl

theorem eval_none : eval tbl p t (f + 1) k iv .none = .ok .none_ := rfl
theorem eval_panic : eval tbl p t (f + 1) k iv .panic = .err .panic := rfl
theorem eval_cont (κ : K) : eval tbl p t (f + 1) k iv (.cont κ) = .ok (.win 0 t.first) := rfl

theorem eval_call (m : M) (i : I) (κ : K) : eval tbl p t (f + 1) k iv (.call m i κ) =
    match evalI p t iv i with
    | none => .err .panic
    | some iv' => runF tbl f p t (kindAfter k κ) iv' m := rfl

theorem eval_build (la : Acc) (nm : M) : eval tbl p t (f + 1) k iv (.build la nm) =
    if tbl (sliceKind k) iv.form nm = some (.build la nm) ∨ tbl (sliceKind k) iv.form nm = some (.some (.build la nm)) then
      buildLT iv la.mode t
    else .err .stuck := rfl

end

/-! ## std's side: a field array answers the two forms it is asked as std does, and std itself
treats the other five forms as ranges (`core::slice::index`: `..e` is `0..e`, `s..` is `s..len`,
`s..=e` is `s..e+1` unless `e` is `usize::MAX`, `..=e` is `0..=e`) -/

theorem leafAcc_std (n : Nat) (iv : IV) (μ : Mode) (h : iv.form = .pos ∨ iv.form = .range) :
    leafAcc n iv μ = match stdGet n iv with
      | some (s, l) => .ok (.win s l)
      | none => oob μ := by
  unfold leafAcc stdGet
  -- in either form both sides branch on the same bounds test
  rcases h with h | h <;> rw [h] <;> dsimp only <;> split <;> rfl

section
variable {n : Nat} {iv : IV}

theorem stdGet_rangeTo (h : iv.form = .rangeTo) :
    stdGet n iv = stdGet n { form := .range, start := 0, end_ := iv.end_ } := by
  simp [stdGet, h]

theorem stdGet_rangeFrom (h : iv.form = .rangeFrom) :
    stdGet n iv = stdGet n { form := .range, start := iv.start, end_ := n } := by
  simp [stdGet, h]

theorem stdGet_rangeFull (h : iv.form = .rangeFull) : stdGet n iv = some (0, n) := by
  simp only [stdGet, h]

theorem stdGet_rangeIncl (h : iv.form = .rangeIncl) :
    stdGet n iv = if iv.end_ = MAX then none
      else stdGet n { form := .range, start := if iv.exhausted then iv.end_ + 1 else iv.start, end_ := iv.end_ + 1 } := by
  simp only [stdGet, h]

theorem stdGet_rangeToIncl (h : iv.form = .rangeToIncl) :
    stdGet n iv = stdGet n { form := .rangeIncl, start := 0, end_ := iv.end_ } := by
  simp [stdGet, h]

end

end Soa.IdxIR
