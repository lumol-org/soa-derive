import Soa.Model.SkelView
import Soa.Lemmas.SkelRead.C05
/-!
# Views, references and pointer bundles: the extracted methods act uniformly on every field

For every generated view / reference / pointer method with per-field content: on a value
whose fields all carry the same std value (all field slices cover the same window, all
field pointers designate the same position — what lockstep means for a view), the method
*as extracted from /repo* yields a value whose fields all carry the same result, and that
result is the one the hand-written model (`Soa.View`, `C10.Bundle`) uses.  For every
well-formed shape, every window / position and every argument.
-/
namespace Soa.Sk
open View Soa.Extracted

variable (sh : Shape) (hw : sh.wf)
include hw

/-- unfold the run of a view method on a uniform value -/
macro "view_run" rd:ident ex:ident nm:term : tactic => `(tactic| (
  have hn := $nm
  simp only [runView, $rd:ident, $ex:ident, hn, runViewSk, itemExpr, nestOkView, subject, isSliceFromRawParts,
    mapR_uniform _ _ _ ‹Shape.wf _›, first_uniform _ _ ‹Shape.wf _›, any_uniform _ _ _ ‹Shape.wf _›, viewLeaf, vNat, vInt,
    isEmptyLV, isNullLV]))

theorem as_slice_tie (n : Nat) :
    runView sk_PVec_as_slice (VT.uniform (.len n) sh) [] = .ok (.one (VT.uniform (.win ⟨0, n⟩) sh)) := by
  rw [runView_plain read_PVec_as_slice (nestOkView_call ..) hw rfl, viewLeaf]; rfl

theorem as_mut_slice_tie (n : Nat) :
    runView sk_PVec_as_mut_slice (VT.uniform (.len n) sh) [] = .ok (.one (VT.uniform (.win ⟨0, n⟩) sh)) := by
  rw [runView_plain read_PVec_as_mut_slice (nestOkView_call ..) hw rfl, viewLeaf]; rfl

/-- `vec.slice(a..b)`: the window `a..b` in every field, panicking exactly when std indexing does (`View.vecSlice`) -/
theorem slice_tie (n a b : Nat) :
    runView sk_PVec_slice (VT.uniform (.len n) sh) [.range a b] =
      match vecSlice n a b with
      | .ok w => .ok (.one (VT.uniform (.win w) sh))
      | _ => .panic := by
  rw [runView_plain read_PVec_slice (nestOkView_index ..) hw rfl, viewLeaf, vecSlice]
  by_cases h : a ≤ b ∧ b ≤ n <;> simp [h]

theorem slice_mut_tie (n a b : Nat) :
    runView sk_PVec_slice_mut (VT.uniform (.len n) sh) [.range a b] =
      match vecSlice n a b with
      | .ok w => .ok (.one (VT.uniform (.win w) sh))
      | _ => .panic := by
  rw [runView_plain read_PVec_slice_mut (nestOkView_index ..) hw rfl, viewLeaf, vecSlice]
  by_cases h : a ≤ b ∧ b ≤ n <;> simp [h]

theorem split_at_tie (w : Win) (k : Nat) :
    runView sk_PSlice_a_split_at (VT.uniform (.win w) sh) [.nat k] =
      match splitAt w k 0, splitAt w k 1 with
      | .ok l, .ok r => .ok (.two (VT.uniform (.win l) sh) (VT.uniform (.win r) sh))
      | _, _ => .panic := by
  rw [runView_pairs read_PSlice_a_split_at rfl rfl rfl (nestOkView_call ..) hw rfl nofun, onUniform_plain, viewLeaf, splitAt, splitAt]
  by_cases h : k ≤ w.l <;> simp [h, vNat, unzip_uniform]

theorem split_at_mut_tie (w : Win) (k : Nat) :
    runView sk_PSliceMut_a_split_at_mut (VT.uniform (.win w) sh) [.nat k] =
      match splitAt w k 0, splitAt w k 1 with
      | .ok l, .ok r => .ok (.two (VT.uniform (.win l) sh) (VT.uniform (.win r) sh))
      | _, _ => .panic := by
  rw [runView_pairs read_PSliceMut_a_split_at_mut rfl rfl rfl (nestOkView_call ..) hw rfl nofun, onUniform_plain, viewLeaf, splitAt, splitAt]
  by_cases h : k ≤ w.l <;> simp [h, vNat, unzip_uniform]

theorem first_tie (w : Win) :
    runView sk_PSlice_a_first (VT.uniform (.win w) sh) [] =
      match first w with
      | .ok p => .ok (.one (VT.uniform (.pos p) sh))
      | _ => .ok .none_ := by
  rw [runView_lets read_PSlice_a_first rfl rfl rfl (nestOkView_call ..) hw rfl (fun _ => first_uniform _ _ hw),
    onUniform_emptyNone, viewLeaf, first]
  by_cases h : w.l = 0 <;> simp [h]

theorem first_mut_tie (w : Win) :
    runView sk_PSliceMut_a_first_mut (VT.uniform (.win w) sh) [] =
      match first w with
      | .ok p => .ok (.one (VT.uniform (.pos p) sh))
      | _ => .ok .none_ := by
  rw [runView_lets read_PSliceMut_a_first_mut rfl rfl rfl (nestOkView_call ..) hw rfl (fun _ => first_uniform _ _ hw),
    onUniform_emptyNone, viewLeaf, first]
  by_cases h : w.l = 0 <;> simp [h]

theorem last_tie (w : Win) :
    runView sk_PSlice_a_last (VT.uniform (.win w) sh) [] =
      match last w with
      | .ok p => .ok (.one (VT.uniform (.pos p) sh))
      | _ => .ok .none_ := by
  rw [runView_lets read_PSlice_a_last rfl rfl rfl (nestOkView_call ..) hw rfl (fun _ => first_uniform _ _ hw),
    onUniform_emptyNone, viewLeaf, last]
  by_cases h : w.l = 0 <;> simp [h]

theorem last_mut_tie (w : Win) :
    runView sk_PSliceMut_a_last_mut (VT.uniform (.win w) sh) [] =
      match last w with
      | .ok p => .ok (.one (VT.uniform (.pos p) sh))
      | _ => .ok .none_ := by
  rw [runView_lets read_PSliceMut_a_last_mut rfl rfl rfl (nestOkView_call ..) hw rfl (fun _ => first_uniform _ _ hw),
    onUniform_emptyNone, viewLeaf, last]
  by_cases h : w.l = 0 <;> simp [h]

theorem split_first_tie (w : Win) :
    runView sk_PSlice_a_split_first (VT.uniform (.win w) sh) [] =
      match splitFirst w with
      | .ok (p, r) => .ok (.two (VT.uniform (.pos p) sh) (VT.uniform (.win r) sh))
      | _ => .ok .none_ := by
  rw [runView_pairs read_PSlice_a_split_first rfl rfl rfl (nestOkView_call ..) hw rfl (fun _ => first_uniform _ _ hw),
    onUniform_emptyNone, viewLeaf, splitFirst]
  by_cases h : w.l = 0 <;> simp [h, unzip_uniform]

theorem split_first_mut_tie (w : Win) :
    runView sk_PSliceMut_a_split_first_mut (VT.uniform (.win w) sh) [] =
      match splitFirst w with
      | .ok (p, r) => .ok (.two (VT.uniform (.pos p) sh) (VT.uniform (.win r) sh))
      | _ => .ok .none_ := by
  rw [runView_pairs read_PSliceMut_a_split_first_mut rfl rfl rfl (nestOkView_call ..) hw rfl (fun _ => first_uniform _ _ hw),
    onUniform_emptyNone, viewLeaf, splitFirst]
  by_cases h : w.l = 0 <;> simp [h, unzip_uniform]

theorem split_last_tie (w : Win) :
    runView sk_PSlice_a_split_last (VT.uniform (.win w) sh) [] =
      match splitLast w with
      | .ok (p, r) => .ok (.two (VT.uniform (.pos p) sh) (VT.uniform (.win r) sh))
      | _ => .ok .none_ := by
  rw [runView_pairs read_PSlice_a_split_last rfl rfl rfl (nestOkView_call ..) hw rfl (fun _ => first_uniform _ _ hw),
    onUniform_emptyNone, viewLeaf, splitLast]
  by_cases h : w.l = 0 <;> simp [h, unzip_uniform]

theorem split_last_mut_tie (w : Win) :
    runView sk_PSliceMut_a_split_last_mut (VT.uniform (.win w) sh) [] =
      match splitLast w with
      | .ok (p, r) => .ok (.two (VT.uniform (.pos p) sh) (VT.uniform (.win r) sh))
      | _ => .ok .none_ := by
  rw [runView_pairs read_PSliceMut_a_split_last_mut rfl rfl rfl (nestOkView_call ..) hw rfl (fun _ => first_uniform _ _ hw),
    onUniform_emptyNone, viewLeaf, splitLast]
  by_cases h : w.l = 0 <;> simp [h, unzip_uniform]

/-- `reborrow`, `as_ref`, `as_slice` of views: the same window in every field -/
theorem same_window_tie (w : Win) :
    runView sk_PSlice_a_reborrow (VT.uniform (.win w) sh) [] = .ok (.one (VT.uniform (.win w) sh)) ∧
    runView sk_PSliceMut_a_reborrow (VT.uniform (.win w) sh) [] = .ok (.one (VT.uniform (.win w) sh)) ∧
    runView sk_PSliceMut_a_as_ref (VT.uniform (.win w) sh) [] = .ok (.one (VT.uniform (.win w) sh)) ∧
    runView sk_PSliceMut_a_as_slice (VT.uniform (.win w) sh) [] = .ok (.one (VT.uniform (.win w) sh)) := by
  refine ⟨?_, ?_, ?_, ?_⟩
  · rw [runView_plain read_PSlice_a_reborrow (nestOkView_borrow ..) hw rfl, viewLeaf]; rfl
  · rw [runView_plain read_PSliceMut_a_reborrow (nestOkView_borrow ..) hw rfl, viewLeaf]; rfl
  · rw [runView_plain read_PSliceMut_a_as_ref (nestOkView_copy ..) hw rfl, viewLeaf]; rfl
  · rw [runView_plain read_PSliceMut_a_as_slice (nestOkView_copy ..) hw rfl, viewLeaf]; rfl

end Soa.Sk
