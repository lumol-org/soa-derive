import Soa.Lemmas.LoopTie
import Soa.Lemmas.LoopsW
/-!
# `retain` / `retain_mut`, as extracted, are `Model.retain`

One iteration of the extracted loop body on the machine the loop runs on (`retain_iter`) is one unfolding of
`Model.retainLoop` (`retainLoop_succ`); the loop is an induction that does not look at the interpreter.
The callback may write to the element it is shown (`touch`); `retain`'s callback gets `&T` and cannot, which is
the instance `touch = fun _ _ => none`.
-/
namespace Soa.Lp
open Soa.Model Soa.Extracted

/-- the machine the loop runs on: locals `L`, `i` calls of the callback made, no by-value parameter -/
def retMach (L : List (String × V)) (c : Cols) (i : Nat) (vis : List (List Nat)) (ev : Ev) (made : List Nat) : Mach :=
  { self := c, locals := L, ev := ev, vis := vis, made := made, calls := i }

section
variable (env : Env) (hlen : env.M.len = Cols.firstLen) (hsw : SwOk env.M.swap) {g : String} (hg : g = "get" ∨ g = "get_mut")
  {n : Nat}
include hlen hsw hg

theorem retain_iter {c : Cols} {i del : Nat} (hc : c.lock n) (hi : i < n) (hd : del ≤ i) (vis : List (List Nat)) (ev : Ev)
    (made : List Nat) :
    forNat env "i" .nat (retainBody g) i (retMach (baseLocals n del) c i vis ev made) =
      (let t := touched env.touch c ev made i
       let vis' := vis ++ [Model.rowAt c i]
       if env.boom = some i then .panic (retMach (("i", .nat i) :: baseLocals n del) t.1 (i + 1) vis' t.2.1 t.2.2)
       else if !env.keep i then .ok () (retMach (baseLocals n (del + 1)) t.1 (i + 1) vis' t.2.1 t.2.2)
       else if del > 0 then
         .ok () (retMach (baseLocals n del) (t.1.apply2 (swapOp (i - del) i) (Model.noArgs t.1)).st (i + 1) vis' t.2.1 t.2.2)
       else .ok () (retMach (baseLocals n del) t.1 (i + 1) vis' t.2.1 t.2.2)) := by
  have hc1 := touched_lock env.touch n c ev made i hc
  -- `f(slice.GET(i).unwrap())`: the callback is shown row `i`, writes to it, and panics or answers
  have hcall : eval env (.app 0 [(.mcall (.mcall (.var "slice") g [(.var "i")]) "unwrap" [])])
      (retMach (("i", .nat i) :: baseLocals n del) c i vis ev made) =
      (let t := touched env.touch c ev made i
       let m' := retMach (("i", .nat i) :: baseLocals n del) t.1 (i + 1) (vis ++ [Model.rowAt c i]) t.2.1 t.2.2
       if env.boom = some i then .panic m' else .ok (.bool (env.keep i)) m') := by
    simp only [retMach, baseLocals, lpstep, String.reduceEq, ↓reduceIte, callOther_view_get _ _ _ _ _ hg, hlen,
      firstLen_lock c n hc, hi, callClosure, touched]
    cases env.touch i i <;> rfl
  show (execList env (retainBody g) (retMach (("i", .nat i) :: baseLocals n del) c i vis ev made)).bind _ = _
  simp only [retainBody, execList_cons, exec_ite, eval_not, hcall]
  by_cases hb : env.boom = some i
  · simp only [hb, ↓reduceIte, Res.bind_panic]
  simp only [hb, ↓reduceIte]
  cases env.keep i
  · -- rejected: `del += 1`
    simp only [retMach, baseLocals, lpstep, Bool.not_false, String.reduceEq, ↓reduceIte]
  · simp only [retMach, baseLocals, lpstep, Bool.not_true, String.reduceEq, ↓reduceIte]
    by_cases hdz : del > 0
    · -- kept, and something was rejected before: `slice.swap(i - del, i)`
      have hlt : i - del < n := Nat.lt_of_le_of_lt (Nat.sub_le i del) hi
      obtain ⟨hp, _⟩ := swap_ok _ n (i - del) i hc1 hlt hi
      simp only [hdz, decide_true, lpstep, String.reduceEq, ↓reduceIte, binV_sub hd, hsw _ n (i - del) i hc1 hlt hi,
        modelSwap, hp, Bool.false_eq_true]
    · simp only [hdz, decide_false, ↓reduceIte, Bool.false_eq_true, lpstep]

theorem retain_loop_w (k : Unit → Mach → Res Unit) (fuel i del : Nat) (c : Cols) (vis : List (List Nat)) (ev : Ev)
    (made : List Nat) (hc : c.lock n) (hi : i + fuel = n) (hd : del ≤ i) :
    outOf ((forRange (forNat env "i" .nat (retainBody g)) i fuel (retMach (baseLocals n del) c i vis ev made)).bind k) =
      (let r := Model.retainLoop env.keep env.boom env.touch fuel i del c vis ev made
       if r.boom then some { st := r.c, panicked := true, ev := r.ev, vis := r.vis, made := r.made }
       else outOf (k () (retMach (baseLocals n r.del) r.c n r.vis r.ev r.made))) := by
  induction fuel generalizing i del c vis ev made with
  | zero => subst hi; rfl
  | succ fuel ih =>
    have hc1 := touched_lock env.touch n c ev made i hc
    have hin : i < n := by omega
    have hi' : i + 1 + fuel = n := (Nat.add_right_comm i 1 fuel).trans hi
    rw [forRange, retain_iter env hlen hsw hg hc hin hd, retainLoop_succ]
    dsimp only
    by_cases hb : env.boom = some i
    · rw [if_pos hb, if_pos hb]; rfl
    rw [if_neg hb, if_neg hb]
    by_cases hk : (!env.keep i) = true
    · rw [if_pos hk, if_pos hk]
      exact ih (i + 1) (del + 1) _ _ _ _ hc1 hi' (Nat.succ_le_succ hd)
    rw [if_neg hk, if_neg hk]
    by_cases hdz : del > 0
    · rw [if_pos hdz, if_pos hdz]
      exact ih (i + 1) del _ _ _ _ (swap_ok _ n (i - del) i hc1 (Nat.lt_of_le_of_lt (Nat.sub_le i del) hin) hin).2.1 hi'
        (Nat.le_succ_of_le hd)
    · rw [if_neg hdz, if_neg hdz]
      exact ih (i + 1) del _ _ _ _ hc1 hi' (Nat.le_succ_of_le hd)

end

theorem retain_exec (env : Env) (hlen : env.M.len = Cols.firstLen) (hsw : SwOk env.M.swap) (htr : TrOk env.dr env.M.truncate)
    {g : String} (hg : g = "get" ∨ g = "get_mut") {c : Cols} {n : Nat} (hc : c.lock n) :
    outOf (execList env (retainStmts g) { self := c }) = some (Model.retain env.dr c env.keep env.boom env.touch) := by
  simp only [retainStmts, lpstep, String.reduceEq, ↓reduceIte, Nat.sub_zero, hlen, firstLen_lock c n hc, Res.bind_assoc]
  refine (retain_loop_w env hlen hsw hg _ n 0 0 c [] {} [] hc (Nat.zero_add n) (Nat.le_refl 0)).trans ?_
  -- of what `retainLoop_sim` says of the loop, only: it keeps lockstep (`hrl`) and rejects at most `n` elements (`hdel`)
  obtain ⟨-, -, -, -, hrl, -, hdel⟩ := retainLoop_sim env.keep env.boom env.touch n n 0 0 c [] [] {} [] hc (Nat.zero_add n)
  simp only [Model.retain, firstLen_lock c n hc]
  generalize Model.retainLoop env.keep env.boom env.touch n 0 0 c [] {} [] = r at hdel hrl ⊢
  cases r.boom
  · -- `if del > 0 { self.truncate(len - del) }` on the loop's machine
    obtain ⟨st, hT, -⟩ := truncate_eq env.dr (n - r.del) n r.c hrl
    simp only [Bool.false_eq_true, ↓reduceIte, retMach, baseLocals, List.length_cons, List.length_nil, Nat.zero_add,
      Nat.reduceAdd, Nat.reduceSub, lpstep]
    by_cases hd : r.del > 0
    · simp only [hd, decide_true, lpstep, String.reduceEq, ↓reduceIte, binV_sub (show r.del ≤ n by omega),
        htr r.c n (n - r.del) hrl, hT, Bool.false_eq_true, outOf]
    · simp only [hd, decide_false, lpstep, ↓reduceIte, outOf]
  · rfl

/-- **`retain`** and **`retain_mut`** as extracted = `Model.retain`, for a callback that writes to the element it is shown
    (`touch`).  `retain`'s callback gets `&T` and cannot write; the statement covers both uniformly. -/
theorem retain_tie_w (dr : Bool) (empty c : Cols) (tr : Cols → Nat → Out) (sw : Cols → Nat → Nat → Out) (htrOk : TrOk dr tr)
    (hsw : SwOk sw) (keep : Nat → Bool) (boom : Option Nat) (touch : Nat → Nat → Option (Nat × Nat)) (n fuel : Nat) (hc : c.lock n) :
    run { dr := dr, ps := [], keep := keep, boom := boom, touch := touch, M := methodsWith empty tr sw, fuel := fuel }
      lp_PVec_retain c = some (Model.retain dr c keep boom touch) ∧
    run { dr := dr, ps := [], keep := keep, boom := boom, touch := touch, M := methodsWith empty tr sw, fuel := fuel }
      lp_PVec_retain_mut c = some (Model.retain dr c keep boom touch) :=
  ⟨(run_unit _ _ _ rfl fun _ => rfl).trans (retain_exec _ rfl hsw htrOk (.inl rfl) hc),
   (run_unit _ _ _ rfl fun _ => rfl).trans (retain_exec _ rfl hsw htrOk (.inr rfl) hc)⟩

/-- **`retain`** and **`retain_mut`** (callback without writes) as extracted = `Model.retain` -/
theorem retain_tie (dr : Bool) (empty c : Cols) (tr : Cols → Nat → Out) (sw : Cols → Nat → Nat → Out) (htrOk : TrOk dr tr)
    (hsw : SwOk sw) (keep : Nat → Bool) (boom : Option Nat) (n fuel : Nat) (hc : c.lock n) :
    run { dr := dr, ps := [], keep := keep, boom := boom, touch := fun _ _ => none, M := methodsWith empty tr sw, fuel := fuel }
      lp_PVec_retain c = some (Model.retain dr c keep boom (fun _ _ => none)) ∧
    run { dr := dr, ps := [], keep := keep, boom := boom, touch := fun _ _ => none, M := methodsWith empty tr sw, fuel := fuel }
      lp_PVec_retain_mut c = some (Model.retain dr c keep boom (fun _ _ => none)) :=
  retain_tie_w dr empty c tr sw htrOk hsw keep boom _ n fuel hc

end Soa.Lp
