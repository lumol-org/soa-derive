import Soa.Extracted.Loops
import Soa.Model.Views
/-!
# The generated sorts, as extracted, are "argsort, then one gather of every field"

The three inherent sorts of a mutable view (`sort_by`, `sort_by_key`, `sort`) are read from
their extracted statement trees as: the index list `0..self.len()`, sorted by **std's stable**
`sort_by` / `sort_by_key` with the callback applied to `self.index(*j)` (in argument order),
turned into `Permutation::oneline(..).inverse()` and applied once through
`__private_apply_permutation` (which is per-field, `Sk.apply_permutation_tie`).  That is
the two-phase form the C07 / C16 theorems are about: phase 1 touches no field (a panic of
the callback leaves the container as it was), phase 2 gathers every field by one
permutation.
-/
namespace Soa.Lp
open Soa.Extracted

/-- how the callback is applied inside the std sort -/
inductive SortCall
  | cmp        -- `f(self.index(*j), self.index(*k))`, the comparator's arguments in the order of the closure's
  | key        -- `f(self.index(*i))`
  | natural    -- `self.index(*i)`: the elements' own `Ord`
  deriving DecidableEq, Repr

structure SortSk where
  stdSort : String      -- the std method sorting the index list
  call : SortCall
  deriving DecidableEq, Repr

/-- read a generated sort -/
def sortSkOf (b : Body) : Option SortSk :=
  match b.stmts, b.tail with
  | [.let_ "permutation" (.mcall (.range (.num 0) (.mcall .self_ "len" [])) "collect" []),
     .expr (.mcall (.var "permutation") sortM [lam]),
     .let_ "permutation" (.mcall (.fcall "Permutation::oneline" [.var "permutation"]) "inverse" []),
     .expr (.mcall .self_ "__private_apply_permutation" [.var "permutation"])], none =>
    (match lam with
     | .lam [j, k] (.app 0 [.mcall .self_ "index" [.var j'], .mcall .self_ "index" [.var k']]) =>
       if j = j' ∧ k = k' ∧ j ≠ k then some ⟨sortM, .cmp⟩ else none
     | .lam [i] (.app 0 [.mcall .self_ "index" [.var i']]) => if i = i' then some ⟨sortM, .key⟩ else none
     | .lam [i] (.mcall .self_ "index" [.var i']) => if i = i' then some ⟨sortM, .natural⟩ else none
     | _ => none)
  | _, _ => none

/-- the sort is std's stable sort of the positions under the user's order, then one gather -/
def SortSk.stable (s : SortSk) : Bool :=
  (s.call == .cmp && s.stdSort == "sort_by") || (s.call != .cmp && s.stdSort == "sort_by_key")

/-- outcome of a generated sort on the window `w` of `c`, given the order `le` on positions the callback induces -/
def runSort (b : Body) (c : Cols) (w : View.Win) (le : Nat → Nat → Bool) : Option Cols :=
  match sortSkOf b with
  | some s => if s.stable then some (View.gatherWin c w ((List.range' w.s w.l).mergeSort le)) else none
  | none => none

theorem sort_by_read : sortSkOf lp_PSliceMut_a_sort_by = some ⟨"sort_by", .cmp⟩ := by decide +kernel
theorem sort_by_key_read : sortSkOf lp_PSliceMut_a_sort_by_key = some ⟨"sort_by_key", .key⟩ := by decide +kernel
theorem sort_read : sortSkOf lp_PSliceMut_a_sort = some ⟨"sort_by_key", .natural⟩ := by decide +kernel

/-- all three generated sorts: argsort with std's stable sort, then the gather of every field -/
theorem sort_tie (c : Cols) (w : View.Win) (le : Nat → Nat → Bool) :
    runSort lp_PSliceMut_a_sort_by c w le = some (View.gatherWin c w ((List.range' w.s w.l).mergeSort le)) ∧
    runSort lp_PSliceMut_a_sort_by_key c w le = some (View.gatherWin c w ((List.range' w.s w.l).mergeSort le)) ∧
    runSort lp_PSliceMut_a_sort c w le = some (View.gatherWin c w ((List.range' w.s w.l).mergeSort le)) := by
  simp [runSort, sort_by_read, sort_by_key_read, sort_read, SortSk.stable]

end Soa.Lp
