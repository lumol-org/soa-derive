import Soa.Lemmas.RetainIdx
namespace Soa.Retain
variable {α : Type}

/-- std `slice.swap(a, b)` for in-bounds indices -/
def swapAt (xs : List α) (a b : Nat) : List α :=
  match xs[a]?, xs[b]? with
  | some x, some y => (xs.set a y).set b x
  | _, _ => xs

/-- the generated `retain` loop, literally: for i in 0..len { if !f(get(i)) {del+=1} else if del>0 {swap(i-del,i)} } -/
def loop (p : α → Bool) : Nat → Nat → Nat → List α → List α × Nat
  | 0, _, del, xs => (xs, del)
  | f+1, i, del, xs =>
    match xs[i]? with
    | none => (xs, del)
    | some x =>
      if !p x then loop p f (i+1) (del+1) xs
      else if del > 0 then loop p f (i+1) del (swapAt xs (i - del) i)
      else loop p f (i+1) del xs

def retain (p : α → Bool) (xs : List α) : List α :=
  let r := loop p xs.length 0 0 xs
  if r.2 > 0 then r.1.take (xs.length - r.2) else r.1

theorem getElem?_swapAt_gt (ys : List α) (a b j : Nat) (ha : a < j) (hb : b < j) : (swapAt ys a b)[j]? = ys[j]? := by
  unfold swapAt
  split
  · rw [List.getElem?_set_ne (Nat.ne_of_lt hb), List.getElem?_set_ne (Nat.ne_of_lt ha)]
  · rfl

/-- a callback that decides by the value it is shown is a callback that answers `p xs[i]` at its `i`-th call: the
    positions from `i` on still hold the original elements -/
theorem loop_eq (p : α → Bool) (xs : List α) : ∀ (f i del : Nat) (ys vis : List α), (∀ j, i ≤ j → ys[j]? = xs[j]?) →
    loop p f i del ys =
      ((RetainIdx.loopB (fun j => xs[j]?.any p) none (fun _ x => x) f i del ys vis).1,
       (RetainIdx.loopB (fun j => xs[j]?.any p) none (fun _ x => x) f i del ys vis).2.1)
  | 0, _, _, _, _, _ => rfl
  | f + 1, i, del, ys, vis, h => by
    cases hx : ys[i]? with
    | none => simp [loop, RetainIdx.loopB, hx]
    | some x =>
      have hk : xs[i]?.any p = p x := by rw [← h i (Nat.le_refl i), hx]; rfl
      rw [RetainIdx.loopB_succ _ _ _ _ _ _ _ _ _ hx, set_self _ _ _ hx]
      simp only [loop, hx, hk, reduceCtorEq, ↓reduceIte]
      split
      · exact loop_eq p xs f _ _ _ _ (fun j hj => h j (Nat.le_of_succ_le hj))
      · split
        · exact loop_eq p xs f _ _ _ _ (fun j hj => by
            rw [getElem?_swapAt_gt _ _ _ _ (Nat.lt_of_le_of_lt (Nat.sub_le i del) hj) hj]; exact h j (Nat.le_of_succ_le hj))
        · exact loop_eq p xs f _ _ _ _ (fun j hj => h j (Nat.le_of_succ_le hj))

theorem filterIdx_eq_filter (p : α → Bool) : ∀ (rest pre : List α),
    RetainIdx.filterIdx (fun j => (pre ++ rest)[j]?.any p) pre.length rest = rest.filter p
  | [], _ => rfl
  | x :: r, pre => by
    have := filterIdx_eq_filter p r (pre ++ [x])
    simp only [List.append_assoc, List.cons_append, List.nil_append, List.length_append, List.length_cons,
      List.length_nil, Nat.zero_add] at this
    simp [RetainIdx.filterIdx, List.filter_cons, this]

/-- the generated retain loop + final truncate is `filter` -/
theorem retain_eq_filter (p : α → Bool) (xs : List α) : retain p xs = xs.filter p := by
  obtain ⟨junk, h, _, hl⟩ := RetainIdx.loopB_spec (fun j => xs[j]?.any p) (fun _ x => x) xs
  have hf : RetainIdx.filterIdx (fun j => xs[j]?.any p) 0 xs = xs.filter p := filterIdx_eq_filter p xs []
  rw [RetainIdx.updFrom_id, hf] at h hl
  unfold retain
  rw [loop_eq p xs xs.length 0 0 xs [] (fun _ _ => rfl), h]
  dsimp only
  split
  · exact List.take_left' (by omega)
  · rw [List.eq_nil_of_length_eq_zero (by omega : junk.length = 0), List.append_nil]

#print axioms retain_eq_filter
end Soa.Retain
